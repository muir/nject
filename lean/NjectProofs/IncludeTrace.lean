import NjectProofs.ChainLemmas
/-
  `providesReturns` (include.go:347-456) as a list of point writes.  Which writes are made, and in which order, depends
  only on what no write touches of a provider (`IP.key`), so the list `trace ti s ip` is computed from the chain `s` the
  computation starts with, round by round: the matching table in front of a round is a function of the round
  (`tableBefore`).  Every chain with the keys of `s` makes these writes (`providesReturns_trace_of`).  After that an
  invariant is a statement about single writes, and a change of one provider that keeps its key commutes with the
  computation (`providesReturns_upd`).
-/
namespace Nject

def IP.mcOf (f : IP) (down : Bool) : Bool := if down then f.mcOut else f.mcRet

def flowOfParam (f : IP) : Param → List Ty
  | .inp => f.c.inp
  | .recv => f.c.recv
  | .byp => f.c.byp

theorem flowOfParam_congr {f g : IP} (h : f.c = g.c) (p : Param) : flowOfParam f p = flowOfParam g p := by
  cases p <;> simp only [flowOfParam, h]

/-- the elementary writes of `providesReturns`; each is a point update -/
inductive Wr where
  | reset (p : Param) (i : Nat)
  | err (p : Param) (i : Nat) (t : Ty)
  | rmap (p : Param) (i : Nat) (t found : Ty)
  | use (p : Param) (i : Nat) (t : Ty) (d : Nat)
  | usedBy (down : Bool) (d : Nat) (t : Ty) (i : Nat)
  /-- written when the flow must be consumed: `i` is to be looked at again when its source `d` drops out -/
  | back (i d : Nat)
  | clearByp (i : Nat)
  | clearUsedBy (down : Bool) (i : Nat)

def Wr.pos : Wr → Nat
  | .reset _ i | .err _ i _ | .rmap _ i _ _ | .use _ i _ _ | .usedBy _ i _ _ | .back i _ | .clearByp i | .clearUsedBy _ i => i

/-- the bodies of the `upd`s of `requireParams`, `provideParams` and `providesReturns` -/
def Wr.fn : Wr → IP → IP
  | .reset p _ => fun f => match p with
    | .inp => { f with usesIn := [], errIn := [] }
    | .recv => { f with usesRecv := [], errRecv := [] }
    | .byp => { f with usesByp := [], errByp := [] }
  | .err p _ t => fun f => match p with
    | .inp => { f with errIn := f.errIn ++ [t] }
    | .recv => { f with errRecv := f.errRecv ++ [t] }
    | .byp => { f with errByp := f.errByp ++ [t] }
  | .rmap p _ t found => fun f => match p with
    | .inp => { f with downRmap := setKey f.downRmap t found }
    | .recv => { f with upRmap := setKey f.upRmap t found }
    | .byp => { f with bypassRmap := setKey f.bypassRmap t found }
  | .use p _ t d => fun f => match p with
    | .inp => { f with usesIn := appendAt f.usesIn t d, uses := f.uses ++ [d] }
    | .recv => { f with usesRecv := appendAt f.usesRecv t d, uses := f.uses ++ [d] }
    | .byp => { f with usesByp := appendAt f.usesByp t d, uses := f.uses ++ [d] }
  | .usedBy down _ t i => fun g =>
    if down then { g with usedBy := g.usedBy ++ [i], usedByOut := appendAt g.usedByOut t i }
    else { g with usedBy := g.usedBy ++ [i], usedByRet := appendAt g.usedByRet t i }
  | .back _ d => fun f => { f with usedBy := f.usedBy ++ [d] }
  | .clearByp _ => fun f => { f with bypassRmap := [] }
  | .clearUsedBy down _ => fun f => if down then { f with usedByOut := [] } else { f with usedByRet := [] }

def Wr.apply (c : Chain) (w : Wr) : Chain := c.upd w.pos w.fn

/-- `requireParameters` with its writes named -/
theorem requireParams_eq (ti : TyInfo) (ch : Chain) (i : Nat) (avail : IMap) (p : Param) :
    requireParams ti ch i avail p =
      ((flowOfParam (ch.get i) p).filter (· != tNoType)).foldl (fun ch t =>
        match bestMatch ti (fun q => (ch.get q).c.loose) avail t with
        | none => (Wr.err p i t).apply ch
        | some (found, deps) => deps.foldl (fun ch d =>
            let ch := [Wr.use p i t d, .usedBy (p != .recv) d t i].foldl Wr.apply ch
            if (ch.get d).mcOf (p != .recv) then (Wr.back i d).apply ch else ch) ((Wr.rmap p i t found).apply ch))
        ((Wr.reset p i).apply ch) := by
  unfold requireParams
  cases p <;> rfl

def downStep (ti : TyInfo) (initPos : Option Nat) (acc : Chain × IMap) (i : Nat) : Chain × IMap :=
  let (ch, avail) := acc
  if (ch.get i).cannot then acc else
  let ch :=
    match initPos with
    | some ip =>
      if (ch.get i).c.cls == .invokeFunc then
        requireParams ti (ch.upd ip fun f => { f with bypassRmap := [] }) ip avail .byp
      else ch
    | none => ch
  let ch := requireParams ti ch i avail .inp
  provideParams ch i avail true (i + 2)

def upStep (ti : TyInfo) (n : Nat) (acc : Chain × IMap) (i : Nat) : Chain × IMap :=
  let (ch, avail) := acc
  if (ch.get i).cannot then acc else
  let ch := requireParams ti ch i avail .recv
  provideParams ch i avail false (n - i + 2)

def resetDeps (f : IP) : IP :=
  { f with usedByOut := [], usedByRet := [], usesIn := [], usesRecv := [], usesByp := [],
           uses := [], errIn := [], errRecv := [], errByp := [], usedBy := [] }

theorem providesReturns_eq (ti : TyInfo) (s : Chain) (ip : Option Nat) :
    providesReturns ti s ip =
      ((List.range s.length).reverse.foldl (upStep ti s.length)
        (((List.range s.length).foldl (downStep ti ip) (s.map resetDeps, ([] : IMap))).1, ([] : IMap))).1 := by
  rfl

def Pres {α} (φ : IP → α) (ch ch' : Chain) : Prop := ∀ j, φ (ch'.get j) = φ (ch.get j)

theorem Pres_refl {α} (φ : IP → α) (ch : Chain) : Pres φ ch ch := fun _ => rfl

theorem Pres_trans {α} {φ : IP → α} {a b c : Chain} (h1 : Pres φ a b) (h2 : Pres φ b c) : Pres φ a c :=
  fun j => (h2 j).trans (h1 j)

/-- `f` with the flow records (all that `providesReturns` writes) of `s` -/
def IP.setFlow (f s : IP) : IP :=
  { f with downRmap := s.downRmap, upRmap := s.upRmap, bypassRmap := s.bypassRmap, usesIn := s.usesIn, usesRecv := s.usesRecv,
           usesByp := s.usesByp, errIn := s.errIn, errRecv := s.errRecv, errByp := s.errByp, uses := s.uses, usedBy := s.usedBy,
           usedByOut := s.usedByOut, usedByRet := s.usedByRet }

/-- `g` reads and writes flow records only -/
abbrev FlowWriter (g : IP → IP) : Prop := ∀ f s : IP, g (f.setFlow s) = f.setFlow (g s)

theorem FlowWriter.proj {α} {g : IP → IP} (hg : FlowWriter g) {φ : IP → α} (hφ : ∀ f s, φ (f.setFlow s) = φ f) (f : IP) :
    φ (g f) = φ f :=
  (congrArg φ (hg f f)).trans (hφ f (g f))

/-- all that the trace reads of a provider -/
structure FlowKey where
  (inp out recv ret byp loose : List Ty)
  cls : ClassT
  (synthetic cannot mcOut mcRet : Bool)

def IP.key (f : IP) : FlowKey :=
  { inp := f.c.inp, out := f.c.out, recv := f.c.recv, ret := f.c.ret, byp := f.c.byp, loose := f.c.loose, cls := f.c.cls,
    synthetic := f.c.synthetic, cannot := f.cannot, mcOut := f.mcOut, mcRet := f.mcRet }

/-- `φ` neither reads nor writes a flow record, and keeps what the flow computation reads of a provider -/
structure FlowBlind (φ : IP → IP) : Prop where
  frame : ∀ f s : IP, φ (f.setFlow s) = (φ f).setFlow s
  key : ∀ f, (φ f).key = f.key

/-- frame rule: what acts on the flow records commutes with what acts on the rest -/
theorem FlowBlind.comm {φ g : IP → IP} (hφ : FlowBlind φ) (hg : FlowWriter g) (f : IP) : g (φ f) = φ (g f) :=
  have e0 : φ f = (φ f).setFlow f := hφ.frame f f
  have e1 : g f = f.setFlow (g f) := hg f f
  ((congrArg g e0).trans (hg (φ f) f)).trans ((congrArg φ e1).trans (hφ.frame f (g f))).symm

theorem Wr.fn_writer (w : Wr) : FlowWriter w.fn := by
  intro f s
  unfold IP.setFlow
  cases w with
  | reset p _ | err p _ _ | rmap p _ _ _ | use p _ _ _ => cases p <;> rfl
  | usedBy down _ _ _ | clearUsedBy down _ => cases down <;> rfl
  | back _ _ | clearByp _ => rfl

theorem resetDeps_writer : FlowWriter resetDeps := fun _ _ => rfl

theorem Wr.apply_length (c : Chain) (w : Wr) : (w.apply c).length = c.length := Chain.length_upd _ _ _

theorem foldl_apply_length (l : List Wr) (c : Chain) : (l.foldl Wr.apply c).length = c.length :=
  List.foldlRecOn (motive := fun b => b.length = c.length) l _ rfl fun b hb w _ => (w.apply_length b).trans hb

theorem foldl_apply_keep {Q : IP → Prop} {k : Nat} (l : List Wr) {c : Chain} (hl : ∀ w ∈ l, w.pos = k → ∀ f, Q f → Q (w.fn f))
    (h : Q (c.get k)) : Q ((l.foldl Wr.apply c).get k) :=
  List.foldlRecOn (motive := fun c => Q (c.get k)) l _ h fun c h w hw => Chain.get_upd_of c _ k h fun e => hl w hw e.symm _ h

/-- over the blocks `g b` of a list: what the block of `a` sets up at `k`, whatever it starts from, holds at the end when
    the writes of the other blocks keep it (the last block of `a` counts) -/
theorem foldl_flatMap_last {α} {Q : IP → Prop} {k : Nat} (g : α → List Wr) (a : α) (l : List α) (c : Chain) (ha : a ∈ l) (hk : k < c.length)
    (hset : ∀ c : Chain, k < c.length → Q (((g a).foldl Wr.apply c).get k))
    (hkeep : ∀ b ∈ l, b ≠ a → ∀ w ∈ g b, w.pos = k → ∀ f, Q f → Q (w.fn f)) :
    Q (((l.flatMap g).foldl Wr.apply c).get k) := by
  induction l generalizing c with
  | nil => cases ha
  | cons b l ih =>
    rewrite [List.flatMap_cons, List.foldl_append]
    by_cases hm : a ∈ l
    · exact ih _ hm (by rewrite [foldl_apply_length]; exact hk) fun b' hb' => hkeep b' (List.mem_cons_of_mem _ hb')
    · cases (List.mem_cons.mp ha).resolve_right hm
      refine foldl_apply_keep _ (fun w hw hpos f hf => ?_) (hset c hk)
      obtain ⟨b', hb', hw'⟩ := List.mem_flatMap.mp hw
      exact hkeep b' (List.mem_cons_of_mem _ hb') (fun e => hm (e ▸ hb')) w hw' hpos f hf

theorem foldl_apply_mark {Q : IP → Prop} {w : Wr} (hw : ∀ f, Q (w.fn f)) (l : List Wr) (c : Chain) (hn : w.pos < c.length)
    (hm : w ∈ l) (hk : ∀ w' ∈ l, w'.pos = w.pos → ∀ f, Q f → Q (w'.fn f)) : Q ((l.foldl Wr.apply c).get w.pos) := by
  have := foldl_flatMap_last (Q := Q) (fun w => [w]) w l c hm hn
    (fun c hc => by unfold Wr.apply; rewrite [List.foldl_cons, List.foldl_nil, Chain.get_upd_self c _ hc]; exact hw _)
    fun b hb _ w' hw' => List.mem_singleton.mp hw' ▸ hk b hb
  rwa [List.flatMap_singleton'] at this

theorem foldl_apply_pres {α} (φ : IP → α) (l : List Wr) (c : Chain) (h : ∀ w ∈ l, ∀ f, φ (w.fn f) = φ f) :
    Pres φ c (l.foldl Wr.apply c) :=
  List.foldlRecOn (motive := Pres φ c) l _ (Pres_refl φ c) fun b hb w hw => Pres_trans hb (Chain.proj_upd' φ (h w hw) b w.pos)

def depWrs (s : Chain) (p : Param) (i : Nat) (t : Ty) (d : Nat) : List Wr :=
  [.use p i t d, .usedBy (p != .recv) d t i] ++ if (s.get d).mcOf (p != .recv) then [.back i d] else []

def typeWrs (ti : TyInfo) (s : Chain) (avail : IMap) (p : Param) (i : Nat) (t : Ty) : List Wr :=
  match bestMatch ti (fun q => (s.get q).c.loose) avail t with
  | none => [.err p i t]
  | some (found, deps) => .rmap p i t found :: deps.flatMap (depWrs s p i t)

def reqWrs (ti : TyInfo) (s : Chain) (avail : IMap) (p : Param) (i : Nat) : List Wr :=
  .reset p i :: ((flowOfParam (s.get i) p).filter (· != tNoType)).flatMap (typeWrs ti s avail p i)

/-- `c` has the keys of `s`: it is `s` after some writes, or after a change that keeps the keys -/
def After (s c : Chain) : Prop := Pres IP.key s c

theorem After.cannot {s c : Chain} (h : After s c) (j : Nat) : (c.get j).cannot = (s.get j).cannot :=
  congrArg FlowKey.cannot (h j)

theorem After.mcOf {s c : Chain} (h : After s c) (j : Nat) (down : Bool) : (c.get j).mcOf down = (s.get j).mcOf down := by
  cases down
  · exact congrArg FlowKey.mcRet (h j)
  · exact congrArg FlowKey.mcOut (h j)

theorem After.flow {s c : Chain} (h : After s c) (j : Nat) (p : Param) : flowOfParam (c.get j) p = flowOfParam (s.get j) p := by
  cases p
  · exact congrArg FlowKey.inp (h j)
  · exact congrArg FlowKey.recv (h j)
  · exact congrArg FlowKey.byp (h j)

theorem After.apply {s c : Chain} (h : After s c) (l : List Wr) : After s (l.foldl Wr.apply c) :=
  Pres_trans h (foldl_apply_pres IP.key l c fun w _ => w.fn_writer.proj fun _ _ => rfl)

theorem foldl_trace {α} {s : Chain} {step : Chain → α → Chain} {g : α → List Wr}
    (hs : ∀ c a, After s c → step c a = (g a).foldl Wr.apply c) (l : List α) (c : Chain) (h : After s c) :
    l.foldl step c = (l.flatMap g).foldl Wr.apply c := by
  induction l generalizing c with
  | nil => rfl
  | cons a l ih =>
    rewrite [List.foldl_cons, List.flatMap_cons, List.foldl_append, hs c a h]
    exact ih _ (h.apply _)

/-- one `foldl_trace` per loop: what a loop body reads of the chain it has got to is part of a key, so it is read off `s` -/
theorem requireParams_trace {ti : TyInfo} {s c : Chain} (h : After s c) (i : Nat) (avail : IMap) (p : Param) :
    requireParams ti c i avail p = (reqWrs ti s avail p i).foldl Wr.apply c := by
  rewrite [requireParams_eq, reqWrs, List.foldl_cons, h.flow i p]
  refine foldl_trace (fun c t h => ?_) _ _ (h.apply [.reset p i])
  unfold typeWrs
  rewrite [show (fun q => (c.get q).c.loose) = fun q => (s.get q).c.loose from funext fun q => congrArg FlowKey.loose (h q)]
  cases bestMatch ti (fun q => (s.get q).c.loose) avail t with
  | none => rfl
  | some r =>
    refine foldl_trace (fun c d h => ?_) r.2 _ (h.apply [.rmap p i t r.1])
    unfold depWrs
    dsimp only
    rewrite [(h.apply _).mcOf, List.foldl_append]
    cases (s.get d).mcOf (p != .recv) <;> rfl

def layerOf (down : Bool) (n i : Nat) : Nat := if down then i + 2 else n - i + 2

/-- what `provideParams` puts into the table for provider `q` -/
def offered (s : Chain) (down : Bool) (q : Nat) : List Ty :=
  (if down then (s.get q).key.out else (s.get q).key.ret).filter fun t => t != tNoType && (t != tUnused || (s.get q).key.synthetic)

def tableStep (s : Chain) (down : Bool) (n : Nat) (avail : IMap) (i : Nat) : IMap :=
  if (s.get i).cannot then avail else (offered s down i).foldl (fun m t => m.add t (layerOf down n i) i) avail

def roundWrs (ti : TyInfo) (s : Chain) (ip : Option Nat) (down : Bool) (avail : IMap) (i : Nat) : List Wr :=
  if (s.get i).cannot then [] else
  (if down then
    (match ip with
      | some k => if (s.get i).c.cls == .invokeFunc then .clearByp k :: reqWrs ti s avail .byp k else []
      | none => []) ++ reqWrs ti s avail .inp i
  else reqWrs ti s avail .recv i) ++ [.clearUsedBy down i]

theorem provideParams_trace {s c : Chain} (h : After s c) (i : Nat) (avail : IMap) (down : Bool) (layer : Nat) :
    provideParams c i avail down layer = ((Wr.clearUsedBy down i).apply c, (offered s down i).foldl (fun m t => m.add t layer i) avail) := by
  unfold provideParams offered
  rewrite [← h i]
  cases down <;> rfl

theorem downStep_trace {ti : TyInfo} {s c : Chain} (h : After s c) (ip : Option Nat) (n : Nat) (avail : IMap) (i : Nat) :
    downStep ti ip (c, avail) i = ((roundWrs ti s ip true avail i).foldl Wr.apply c, tableStep s true n avail i) := by
  unfold downStep roundWrs tableStep
  dsimp only
  rewrite [h.cannot i, show (c.get i).c.cls = (s.get i).c.cls from congrArg FlowKey.cls (h i)]
  cases (s.get i).cannot with
  | true => rfl
  | false =>
    simp only [Bool.false_eq_true, if_false, if_true, List.foldl_append, List.foldl_cons, List.foldl_nil, layerOf]
    cases ip with
    | none =>
      simp only [List.foldl_nil]
      rw [requireParams_trace h, provideParams_trace (h.apply _)]
    | some k =>
      dsimp only
      cases (s.get i).c.cls == .invokeFunc with
      | true =>
        have h1 : After s ((Wr.clearByp k).apply c) := h.apply [.clearByp k]
        rw [if_pos rfl, if_pos rfl, List.foldl_cons,
          show (c.upd k fun f => { f with bypassRmap := [] }) = (Wr.clearByp k).apply c from rfl,
          requireParams_trace h1, requireParams_trace (h1.apply _), provideParams_trace ((h1.apply _).apply _)]
      | false =>
        rw [if_neg Bool.false_ne_true, if_neg Bool.false_ne_true, List.foldl_nil, requireParams_trace h,
          provideParams_trace (h.apply _)]

theorem upStep_trace {ti : TyInfo} {s c : Chain} (h : After s c) (ip : Option Nat) (n : Nat) (avail : IMap) (i : Nat) :
    upStep ti n (c, avail) i = ((roundWrs ti s ip false avail i).foldl Wr.apply c, tableStep s false n avail i) := by
  unfold upStep roundWrs tableStep
  dsimp only
  rewrite [h.cannot i]
  cases (s.get i).cannot with
  | true => rfl
  | false =>
    simp only [Bool.false_eq_true, if_false, List.foldl_append, List.foldl_cons, List.foldl_nil, layerOf]
    rw [requireParams_trace h, provideParams_trace (h.apply _)]

def passList (down : Bool) (n : Nat) : List Nat := if down then List.range n else (List.range n).reverse

theorem mem_passList {down : Bool} {n j : Nat} : j ∈ passList down n ↔ j < n := by
  cases down
  · exact List.mem_reverse.trans List.mem_range
  · exact List.mem_range

/-- `a` has its round before `b`: listed above it in the downward pass, below it in the upward pass -/
def Ahead (down : Bool) (a b : Nat) : Prop := if down then a < b else b < a

instance Ahead.decidable (down : Bool) (a b : Nat) : Decidable (Ahead down a b) := by unfold Ahead; infer_instance

theorem Ahead.asymm {down : Bool} {a b : Nat} (h : Ahead down a b) : ¬ Ahead down b a := by
  cases down <;> exact Nat.lt_asymm h

theorem passList_pairwise (down : Bool) (n : Nat) : (passList down n).Pairwise (Ahead down) := by
  cases down
  · exact List.pairwise_reverse.mpr List.pairwise_lt_range
  · exact List.pairwise_lt_range

/-- the rounds made before that of `i` are those of the providers ahead of it -/
theorem passList_ahead {down : Bool} {n i : Nat} {pre l : List Nat} (h : passList down n = pre ++ i :: l) :
    (passList down n).filter (Ahead down · i) = pre := by
  have hp := passList_pairwise down n
  rw [h] at hp ⊢
  obtain ⟨-, hil, hpre⟩ := List.pairwise_append.mp hp
  rw [List.filter_append, List.filter_cons_of_neg (by rw [decide_eq_true_eq]; exact fun h => h.asymm h),
    List.filter_eq_self.mpr fun a ha => decide_eq_true (hpre a ha i List.mem_cons_self),
    List.filter_eq_nil_iff.mpr fun b hb => by rw [decide_eq_true_eq]; exact ((List.pairwise_cons.mp hil).1 b hb).asymm,
    List.append_nil]

/-- the table in front of the round of `j` -/
def tableBefore (s : Chain) (down : Bool) (n j : Nat) : IMap :=
  ((passList down n).filter (Ahead down · j)).foldl (tableStep s down n) []

theorem pass_foldl_trace {ti : TyInfo} {s : Chain} {ip : Option Nat} {down : Bool} {n : Nat} {step : Chain × IMap → Nat → Chain × IMap}
    (hs : ∀ c avail i, After s c → step (c, avail) i = ((roundWrs ti s ip down avail i).foldl Wr.apply c, tableStep s down n avail i))
    (l pre : List Nat) (c : Chain) (h : After s c) (hl : passList down n = pre ++ l) :
    (l.foldl step (c, pre.foldl (tableStep s down n) [])).1 =
      (l.flatMap fun j => roundWrs ti s ip down (tableBefore s down n j) j).foldl Wr.apply c := by
  induction l generalizing pre c with
  | nil => rfl
  | cons i l ih =>
    have e : tableStep s down n (pre.foldl (tableStep s down n) []) i = (pre ++ [i]).foldl (tableStep s down n) [] := by
      rewrite [List.foldl_append]; rfl
    rewrite [List.foldl_cons, List.flatMap_cons, List.foldl_append, hs c _ i h, e, tableBefore, passList_ahead hl]
    exact ih (pre ++ [i]) _ (h.apply _) (by rewrite [hl, List.append_assoc]; rfl)

/-- the rounds in the order they are made: the downward pass, then the upward pass -/
def rounds (n : Nat) : List (Bool × Nat) := (passList true n).map (true, ·) ++ (passList false n).map (false, ·)

theorem mem_rounds {n : Nat} {down : Bool} {j : Nat} : (down, j) ∈ rounds n ↔ j < n := by
  cases down <;> simp [rounds, mem_passList]

def trace (ti : TyInfo) (s : Chain) (ip : Option Nat) : List Wr :=
  (rounds s.length).flatMap fun r => roundWrs ti s ip r.1 (tableBefore s r.1 s.length r.2) r.2

theorem After.map_resetDeps {s x : Chain} (h : After s x) : After s (x.map resetDeps) := fun j => by
  rewrite [Chain.get_map' x (g := resetDeps) rfl]
  exact (resetDeps_writer.proj (fun _ _ => rfl) _).trans (h j)

/-- a chain with the keys of `s` gets the writes of `s` -/
theorem providesReturns_trace_of {s x : Chain} (h : After s x) (hl : x.length = s.length) (ti : TyInfo) (ip : Option Nat) :
    providesReturns ti x ip = (trace ti s ip).foldl Wr.apply (x.map resetDeps) := by
  have h0 := h.map_resetDeps
  have h1 : ((List.range s.length).foldl (downStep ti ip) (x.map resetDeps, ([] : IMap))).1 = _ :=
    pass_foldl_trace (fun _ avail i h => downStep_trace h ip s.length avail i) _ [] _ h0 rfl
  have h2 : ∀ c, After s c → ((List.range s.length).reverse.foldl (upStep ti s.length) (c, ([] : IMap))).1 = _ :=
    fun c hc => pass_foldl_trace (fun _ avail i h => upStep_trace h ip s.length avail i) _ [] c hc rfl
  rewrite [providesReturns_eq, hl, trace, rounds, List.flatMap_append, List.flatMap_map, List.flatMap_map, List.foldl_append, h1, h2 _ (h0.apply _)]
  rfl

theorem providesReturns_trace (ti : TyInfo) (s : Chain) (ip : Option Nat) :
    providesReturns ti s ip = (trace ti s ip).foldl Wr.apply (s.map resetDeps) :=
  providesReturns_trace_of (Pres_refl _ s) rfl ti ip

theorem providesReturns_proj {α} (φ : IP → α) (hφ : ∀ f s, φ (f.setFlow s) = φ f) (ti : TyInfo) (s : Chain) (ip : Option Nat) (j : Nat) :
    φ ((providesReturns ti s ip).get j) = φ (s.get j) := by
  rewrite [providesReturns_trace, foldl_apply_pres φ _ _ (fun w _ => w.fn_writer.proj hφ) j, Chain.get_map' s (g := resetDeps) rfl]
  exact resetDeps_writer.proj hφ _

theorem providesReturns_c (ti : TyInfo) (s : Chain) (ip : Option Nat) (j : Nat) : ((providesReturns ti s ip).get j).c = (s.get j).c :=
  providesReturns_proj IP.c (fun _ _ => rfl) ti s ip j

theorem providesReturns_length (ti : TyInfo) (s : Chain) (ip : Option Nat) : (providesReturns ti s ip).length = s.length := by
  rw [providesReturns_trace, foldl_apply_length, List.length_map]

/-- the changed chain gets the same writes, and each of them commutes with `φ` -/
theorem providesReturns_upd {φ : IP → IP} (hφ : FlowBlind φ) (d : Nat) (ti : TyInfo) (s : Chain) (ip : Option Nat) :
    providesReturns ti (s.upd d φ) ip = (providesReturns ti s ip).upd d φ := by
  rewrite [providesReturns_trace_of (fun j => Chain.proj_upd IP.key s d j (hφ.key _)) (Chain.length_upd s d φ), providesReturns_trace,
    Chain.map_upd s d (hφ.comm resetDeps_writer)]
  exact List.foldl_hom (Chain.upd · d φ) (g₂ := Wr.apply) fun c w => Chain.upd_comm c w.pos d (hφ.comm w.fn_writer)

end Nject
