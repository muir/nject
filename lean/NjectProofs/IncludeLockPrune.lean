import NjectProofs.IncludeFuel
import NjectProofs.IncludeLock
import NjectProofs.IncludeSpared
/-
  Pruning treats `x` and `x.upd d reqF` alike when `d` is Desired or auto-desired, not Shun'd and in no Cluster (`DesD`): no
  stage makes `d` its subject, every guard that reads the three flags reads them in a combination that is true either way,
  and a trial validation may not drop `d`, so it gives the same verdict for both (`validate_lock`).  Stage by stage, as equations
  `*_req`; the rounds need that `d` is never proposed (`protW_not_proposed`).
-/
namespace Nject

/-- what is known of provider `d` in the Desired / auto-desired reading, and stays true through pruning -/
structure DesD (d : Nat) (x : Chain) : Prop where
  lt : d < x.length
  req : (x.get d).c.required = false
  want : (x.get d).c.desired = true ∨ ((x.get d).wanted = true ∧ (x.get d).wantedInCluster = false)
  shun : (x.get d).c.shun = false
  cl : (x.get d).c.cluster = 0
  ex : (x.get d).excluded = false

theorem DesD_wd {d : Nat} {x : Chain} (h : DesD d x) : ((x.get d).wanted || (x.get d).c.desired) = true := by
  rcases h.want with h1 | ⟨h1, _⟩
  · simp [h1]
  · simp [h1]

/-- what `DesD` says of a record -/
def IP.dkey (f : IP) := (f.c, f.wanted, f.wantedInCluster, f.excluded)

theorem DesD_of_dkey {d : Nat} {x x' : Chain} (h : DesD d x) (hl : x'.length = x.length) (hk : (x'.get d).dkey = (x.get d).dkey) :
    DesD d x' := by
  simp only [IP.dkey, Prod.mk.injEq] at hk
  obtain ⟨hc, hw, hwc, hx⟩ := hk
  exact ⟨by rewrite [hl]; exact h.lt, by rewrite [hc]; exact h.req, by rewrite [hc, hw, hwc]; exact h.want, by rewrite [hc]; exact h.shun,
    by rewrite [hc]; exact h.cl, by rewrite [hx]; exact h.ex⟩

theorem DesD_upd {d : Nat} {x : Chain} (h : DesD d x) (i : Nat) (g : IP → IP) (hk : i ≠ d ∨ ∀ f, (g f).dkey = f.dkey) :
    DesD d (x.upd i g) := by
  refine DesD_of_dkey h (Chain.length_upd x i g) ?_
  rcases hk with hk | hk
  · rw [Chain.get_upd_ne x g (Ne.symm hk)]
  · exact Chain.proj_upd' (·.dkey) hk x i d

theorem DesD_of_FR {d : Nat} {x x' : Chain} (h : DesD d x) (hfr : FR x x') : DesD d x' :=
  DesD_of_dkey h hfr.1 (hfr.proj _ (fun _ _ _ => rfl) d)

theorem validate_trial_req {d : Nat} {x : Chain} (hdd : DesD d x) :
    (∃ x', validate false x = .ok x' ∧ validate false (x.upd d reqF) = .ok (x'.upd d reqF) ∧ DesD d x') ∨
    (∃ e e', validate false x = .error e ∧ validate false (x.upd d reqF) = .error e') := by
  have hl := validate_lock false d x hdd.lt
  rewrite [show (x.get d).held false = true by simp [IP.held, DesD_wd hdd, hdd.ex]] at hl
  rcases hl.trial with ⟨x', hx', hy', _⟩ | h
  · exact Or.inl ⟨x', hx', hy', DesD_of_FR hdd (validate_FR hx')⟩
  · exact Or.inr h

theorem foldl_upd_req {d : Nat} (g : IP → IP) (l : List Nat) (x : Chain) (hdd : DesD d x) (hd : d ∉ l) :
    l.foldl (fun c w => c.upd w g) (x.upd d reqF) = (l.foldl (fun c w => c.upd w g) x).upd d reqF ∧
    DesD d (l.foldl (fun c w => c.upd w g) x) :=
  foldl_lock (·.upd d reqF) (DesD d) _ l x hdd fun s w hw hs =>
    have hwd : w ≠ d := fun e => hd (e ▸ hw)
    ⟨Chain.upd_comm_ne s hwd _ _, DesD_upd hs w _ (Or.inl hwd)⟩

theorem tryWithout_req {d : Nat} {x : Chain} (hdd : DesD d x) (without : List Nat) (hd : d ∉ without) :
    tryWithout (x.upd d reqF) without = (tryWithout x without).upd d reqF ∧ DesD d (tryWithout x without) := by
  unfold tryWithout
  split
  · rename_i w
    have hwd : w ≠ d := fun e => hd (by simp [e])
    rewrite [Chain.get_upd_ne x reqF hwd]
    by_cases hc : ((x.get w).wanted && (x.get w).wantedInCluster) = true
    · rewrite [if_pos hc, if_pos hc]
      exact ⟨rfl, hdd⟩
    · rewrite [if_neg hc, if_neg hc]
      dsimp only
      rewrite [Chain.upd_comm_ne x hwd]
      have d1 := DesD_upd hdd w (fun f => { f with excluded := true }) (Or.inl hwd)
      rcases validate_trial_req d1 with ⟨x', hx', hy', dd'⟩ | ⟨e, e', hx', hy'⟩
      · rewrite [hx', hy']; exact ⟨rfl, dd'⟩
      · rewrite [hx', hy']; exact ⟨Chain.upd_comm_ne _ hwd _ _, DesD_upd d1 w _ (Or.inl hwd)⟩
  · dsimp only
    obtain ⟨r1, d1⟩ := foldl_upd_req (fun f => { f with excluded := true, wanted := if f.wantedInCluster then false else f.wanted })
      without x hdd hd
    rewrite [r1]
    rcases validate_trial_req d1 with ⟨x', hx', hy', dd'⟩ | ⟨e, e', hx', hy'⟩
    · rewrite [hx', hy']
      exact foldl_upd_req _ without x' dd' hd
    · rewrite [hx', hy']
      exact foldl_upd_req _ without _ d1 hd

/-- both guards of pruning that read the three flags are true of such a provider, Required or not -/
theorem reqF_guard {f : IP} (hw : f.c.desired = true ∨ (f.wanted = true ∧ f.wantedInCluster = false)) :
    ((reqF f).c.required || (reqF f).c.desired || (reqF f).wanted) = (f.c.required || f.c.desired || f.wanted) ∧
    ((reqF f).c.required || (reqF f).c.desired || ((reqF f).wanted && !(reqF f).wantedInCluster))
      = (f.c.required || f.c.desired || (f.wanted && !f.wantedInCluster)) := by
  rcases hw with h | ⟨h1, h2⟩
  · simp [reqF, h]
  · simp [reqF, h1, h2]

theorem keepClosure_req (x : Chain) (d : Nat) (down : Bool) (fuel : Nat) (toKeep keep : List Nat) :
    keepClosure (x.upd d reqF) down fuel toKeep keep = keepClosure x down fuel toKeep keep := by
  fun_induction keepClosure x down fuel toKeep keep with
  | case1 => rw [keepClosure]
  | case2 t keep ht => rw [keepClosure]; exact ht
  | case3 fuel i toKeep keep hk ih => rewrite [keepClosure, if_pos hk]; exact ih
  | case4 fuel i toKeep keep hk fm srcs next ih =>
    rewrite [keepClosure, if_neg hk]
    simp only [get_req (·.usesIn) fun _ => rfl, get_req (·.usesByp) fun _ => rfl, get_req (·.usesRecv) fun _ => rfl,
      get_req (·.cannot) fun _ => rfl, get_req (·.excluded) fun _ => rfl]
    exact ih

theorem proposeEliminations_req {d : Nat} {x : Chain} (hdd : DesD d x) :
    proposeEliminations (x.upd d reqF) = proposeEliminations x := by
  have hseed := fun i => Chain.proj_upd (fun f => f.c.required || f.c.desired || (f.wanted && !f.wantedInCluster)) x d i
    (reqF_guard hdd.want).2
  unfold proposeEliminations
  simp only [Chain.length_upd, keepClosure_req, get_req (·.excluded) fun _ => rfl, get_req (·.c.shun) fun _ => rfl, hseed,
    Chain.map_upd_absorb x d (φ := fun f => (f.usesIn ++ f.usesByp).length + f.usesRecv.length) (g := reqF) fun _ => rfl]

theorem countExcluded_req (x : Chain) (d : Nat) : countExcluded (x.upd d reqF) = countExcluded x := by
  rewrite [countExcluded_range, countExcluded_range, Chain.length_upd]
  simp only [get_req (·.excluded) fun _ => rfl]

theorem eliminateUnused_req {d : Nat} (fuel : Nat) (check : List Nat) (x : Chain) (hdd : DesD d x) :
    eliminateUnused fuel check (x.upd d reqF) = (eliminateUnused fuel check x).upd d reqF ∧ DesD d (eliminateUnused fuel check x) := by
  -- the two conditions of a step read the same in both chains
  -- (the record is named before `rfl` compares its fields: as `reqF (x.get d)` against `x.get d` it would unfold the lookup)
  have hguard := fun (x : Chain) (hdd : DesD d x) i =>
    Chain.proj_upd (fun f => f.c.required || f.c.desired || f.wanted || !f.inc || f.excluded || f.c.cluster != 0) x d i
      (by rewrite [(reqF_guard hdd.want).1]; generalize x.get d = f; rfl)
  have hused : ∀ (x : Chain) i, (((x.upd d reqF).get i).usedBy.any fun k => ((x.upd d reqF).get k).inc)
      = ((x.get i).usedBy.any fun k => (x.get k).inc) := by
    intro x i
    rewrite [get_req (·.usedBy) fun _ => rfl]
    simp only [get_req (·.inc) fun _ => rfl]
  fun_induction eliminateUnused fuel check x with
  | case1 => rewrite [eliminateUnused]; exact ⟨rfl, hdd⟩
  | case2 t x ht => rewrite [eliminateUnused]; exact ⟨rfl, hdd⟩; exact ht
  | case3 fuel i check x fm hg ih => rewrite [eliminateUnused, if_pos ((hguard x hdd i).trans hg)]; exact ih hdd
  | case4 fuel i check x fm hg hu ih =>
    rewrite [eliminateUnused, if_neg (mt (hguard x hdd i).symm.trans hg), if_pos ((hused x i).trans hu)]; exact ih hdd
  | case5 fuel i check x fm hg hu ih =>
    have hid : i ≠ d := by
      intro e
      subst e
      apply hg
      rcases hdd.want with h | ⟨h, _⟩ <;> simp only [fm, h, Bool.or_true, Bool.true_or]
    rewrite [eliminateUnused, if_neg (mt (hguard x hdd i).symm.trans hg), if_neg (mt (hused x i).symm.trans hu),
      Chain.get_upd_ne x reqF hid, Chain.upd_comm_ne x hid]
    exact ih (DesD_upd hdd i _ (Or.inl hid))

theorem wicStep_req {d k : Nat} (hkd : k ≠ d) (b : Bool) {c : Chain} (hdd : DesD d c) :
    wicStep b k (c.upd d reqF) = (wicStep b k c).upd d reqF ∧ DesD d (wicStep b k c) := by
  unfold wicStep
  cases b
  · exact ⟨rfl, hdd⟩
  · rewrite [if_pos rfl, if_pos rfl]
    exact ⟨Chain.upd_comm_ne c hkd _ _, DesD_upd hdd k _ (Or.inl hkd)⟩

theorem clStep_req {d : Nat} (acc : Chain × List (Nat × Nat)) (k : Nat) (hdd : DesD d acc.1) :
    clStep (updFst d reqF acc) k = updFst d reqF (clStep acc k) ∧ DesD d (clStep acc k).1 := by
  obtain ⟨x, leaders⟩ := acc
  have hcond := get_req (fun f => f.c.cluster == 0 || f.excluded) (fun _ => rfl) x d k
  by_cases hskip : ((x.get k).c.cluster == 0 || (x.get k).excluded) = true
  · rewrite [updFst, clStep_skip hskip, clStep_skip (hcond.trans hskip)]
    exact ⟨rfl, hdd⟩
  · -- a provider in a Cluster is not `d`
    have hkd : k ≠ d := fun e => hskip (by rewrite [e, hdd.cl]; rfl)
    have hk : (x.upd d reqF).get k = x.get k := Chain.get_upd_ne x reqF hkd
    have hskip' := mt hcond.symm.trans hskip
    cases hl : leaders.lookup (x.get k).c.cluster with
    | some l =>
      rewrite [updFst, clStep_join hskip hl, clStep_join hskip' (by rewrite [hk]; exact hl), hk,
        Chain.upd_comm x l d (g := fun f => { f with clusterMembers := some ((f.clusterMembers.getD []) ++ [k]) }) (g' := reqF) (fun _ => by rfl),
        Chain.upd_comm_ne _ hkd]
      have w := wicStep_req hkd (!(x.get k).c.required && !(x.get k).c.desired && (x.get k).wanted)
        (DesD_upd (DesD_upd hdd l (fun f => { f with clusterMembers := some ((f.clusterMembers.getD []) ++ [k]) }) (Or.inr fun _ => rfl))
          k (fun f => { f with clusterMembers := none }) (Or.inr fun _ => rfl))
      exact ⟨by rw [w.1], w.2⟩
    | none =>
      rewrite [updFst, clStep_new hskip hl, clStep_new hskip' (by rewrite [hk]; exact hl), hk, Chain.upd_comm_ne x hkd]
      have w := wicStep_req hkd (!(x.get k).c.required && !(x.get k).c.desired && (x.get k).wanted)
        (DesD_upd hdd k (fun f => { f with clusterMembers := some [k] }) (Or.inr fun _ => rfl))
      exact ⟨by rw [w.1], w.2⟩

theorem clusters_req {d : Nat} {x : Chain} (hdd : DesD d x) :
    clusters (x.upd d reqF) = (clusters x).upd d reqF ∧ DesD d (clusters x) := by
  rewrite [clusters_eq, clusters_eq, Chain.length_upd]
  have := foldl_lock (updFst d reqF) (fun acc => DesD d acc.1) clStep (List.range x.length) (x, []) hdd
    fun acc k _ h => clStep_req acc k h
  exact ⟨congrArg Prod.fst this.1, this.2⟩

theorem DesD_protW {d : Nat} {x : Chain} (h : DesD d x) : ProtW (x.get d) :=
  ⟨h.cl, h.shun, by rcases h.want with h1 | h1
                    · exact Or.inr (Or.inl h1)
                    · exact Or.inr (Or.inr h1)⟩

theorem roundStep_req {d : Nat} {x : Chain} (hdd : DesD d x) (hcc : CC x) (i : Nat) (hid : i ≠ d) :
    roundStep (x.upd d reqF) i = (roundStep x i).upd d reqF ∧ DesD d (roundStep x i) := by
  have ht : trialSet (x.upd d reqF) i = trialSet x i := by unfold trialSet; rw [Chain.get_upd_ne x reqF hid]
  rewrite [roundStep_eq, roundStep_eq, ht]
  cases hS : trialSet x i with
  | none => exact ⟨rfl, hdd⟩
  | some S => exact tryWithout_req hdd S (trialSet_not_mem hcc hS hdd.cl hid)

theorem proposalRound_req {d : Nat} {x : Chain} (hdd : DesD d x) (hcc : CC x) :
    proposalRound (x.upd d reqF) = (proposalRound x).upd d reqF ∧ DesD d (proposalRound x) ∧ CC (proposalRound x) := by
  rewrite [proposalRound_eq, proposalRound_eq, proposeEliminations_req hdd]
  have hnp := protW_not_proposed x d (DesD_protW hdd) hdd.ex
  have := foldl_lock (·.upd d reqF) (fun c => DesD d c ∧ CC c) roundStep (proposeEliminations x) x ⟨hdd, hcc⟩
    fun s i hi hs =>
      have r := roundStep_req hs.1 hs.2 i (fun e => hnp (e ▸ hi))
      ⟨r.1, r.2, (roundStep_CC s i hs.2).2⟩
  exact ⟨this.1, this.2.1, this.2.2⟩

theorem proposalLoop_req {d : Nat} (fuel : Nat) (x : Chain) (hdd : DesD d x) (hcc : CC x) :
    proposalLoop fuel (x.upd d reqF) = (proposalLoop fuel x).upd d reqF := by
  fun_induction proposalLoop fuel x with
  | case1 x => rfl
  | case2 fuel x x' he =>
    rw [proposalLoop, (proposalRound_req hdd hcc).1, countExcluded_req, countExcluded_req, if_pos he]
  | case3 fuel x x' he ih =>
    have r := proposalRound_req hdd hcc
    rewrite [proposalLoop, r.1, countExcluded_req, countExcluded_req, if_neg he]
    exact ih r.2.1 r.2.2

theorem pruneStages_req {d : Nat} {x : Chain} (hdd : DesD d x) (hc : (x.get d).cannot = false)
    (h0 : ∀ j, (x.get j).clusterMembers = none) : pruneStages (x.upd d reqF) = (pruneStages x).upd d reqF := by
  rw [pruneStages_unfold, pruneStages_unfold]
  dsimp only
  rw [Chain.map_upd x d (g := fun f => if f.cannot then { f with excluded := true, inc := false } else f) (g' := reqF)
    (fun f => by rw [apply_ite reqF]; rfl)]
  have d0 : DesD d (x.map fun f => if f.cannot then { f with excluded := true, inc := false } else f) :=
    DesD_of_dkey hdd (List.length_map ..) (by rw [Chain.get_map' x rfl d, hc]; rfl)
  have cca := clusters_CC _ (map_cannot_fresh h0)
  obtain ⟨r1, d1⟩ := clusters_req d0
  rw [r1]
  generalize clusters (x.map fun f => if f.cannot then { f with excluded := true, inc := false } else f) = a at cca d1
  rw [Chain.length_upd, Chain.map_upd_absorb a d (φ := (·.uses.length)) (g := reqF) fun _ => rfl]
  obtain ⟨r2, d2⟩ := eliminateUnused_req (a.length + (a.map (·.uses.length)).sum + 8) (List.range a.length) a d1
  obtain ⟨ccb, _⟩ := eliminateUnused_CC (a.length + (a.map (·.uses.length)).sum + 8) (List.range a.length) a cca
  rw [r2, proposalLoop_req (a.length + 1) _ d2 ccb,
    Chain.map_upd _ d (g := fun f => { f with cannot := f.excluded }) (g' := reqF) (fun _ => by rfl)]

theorem flows_validate_same (ti : TyInfo) (ip : Option Nat) (b : Bool) (x x' : Chain) (h : validate b (providesReturns ti x ip) = .ok x') (j : Nat) :
    (x'.get j).dkey = (x.get j).dkey ∧ (x'.get j).clusterMembers = (x.get j).clusterMembers := by
  have hf := validate_FR h
  exact ⟨(hf.proj IP.dkey (fun _ _ _ => rfl) j).trans (providesReturns_proj IP.dkey (fun _ _ => rfl) ti x ip j),
    (hf.proj IP.clusterMembers (fun _ _ _ => rfl) j).trans (providesReturns_proj IP.clusterMembers (fun _ _ => rfl) ti x ip j)⟩

end Nject
