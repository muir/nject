import NjectProofs.IncludeTable
import NjectProofs.IncludeTrace
/-
  Which writes the trace holds (`Written`): apart from resets, the answers to the questions asked (`Asked`), and what the
  table lists says who may be given in answer (`Asked.answer`).  One set of statements covers both passes: the direction
  is `p != .recv`.
-/
namespace Nject

/-- who may answer: the table lists `q` under `t` when `q` has had its round, is not marked and offers `t` -/
theorem lists_tables (s : Chain) (down : Bool) (n : Nat) (pre : List Nat) (t : Ty) (q : Nat) :
    ListsBy (·.2) (pre.foldl (tableStep s down n) []) t q ↔ q ∈ pre ∧ (s.get q).cannot = false ∧ t ∈ offered s down q := by
  induction pre using snoc_induction with
  | h0 => exact ⟨fun h => h.elim fun _ he => absurd he.1 List.not_mem_nil, fun h => absurd h.1 List.not_mem_nil⟩
  | hs pre i ih =>
    rewrite [List.foldl_append, List.foldl_cons, List.foldl_nil, tableStep, List.mem_append, List.mem_singleton]
    cases hc : (s.get i).cannot with
    | true =>
      rewrite [if_pos rfl, ih]
      exact ⟨fun h => ⟨Or.inl h.1, h.2⟩, fun h => ⟨h.1.resolve_right fun e => Bool.noConfusion ((e ▸ h.2.1).symm.trans hc), h.2⟩⟩
    | false =>
      rewrite [if_neg Bool.false_ne_true, adds_lists, ih]
      constructor
      · rintro (h | ⟨rfl, ht⟩)
        · exact ⟨Or.inl h.1, h.2⟩
        · exact ⟨Or.inr rfl, hc, ht⟩
      · rintro ⟨h | rfl, h2⟩
        · exact Or.inl ⟨h, h2⟩
        · exact Or.inr ⟨rfl, h2.2⟩

theorem lists_tableBefore {s : Chain} {down : Bool} {n j : Nat} {t : Ty} {q : Nat} :
    ListsBy (·.2) (tableBefore s down n j) t q ↔ (q < n ∧ Ahead down q j) ∧ (s.get q).cannot = false ∧ t ∈ offered s down q := by
  rw [tableBefore, lists_tables, List.mem_filter, mem_passList, decide_eq_true_eq]

theorem tableBefore_nonempty (s : Chain) (down : Bool) (n j : Nat) : ∀ e ∈ tableBefore s down n j, e.2.2 ≠ [] :=
  List.foldlRecOn (motive := fun m : IMap => ∀ e ∈ m, e.2.2 ≠ []) _ _ (List.forall_mem_nil _) fun m hm i _ => by
    rewrite [tableStep]
    cases (s.get i).cannot
    · exact adds_nonempty _ _ _ m hm
    · exact hm

/-- the provider whose round it is when `i` asks for its parameters `p`: `i` itself, or the invoke function
    for the parameters of the init function that bypass it -/
def Pivot (s : Chain) (ip : Option Nat) (p : Param) (i j : Nat) : Prop :=
  match p with
  | .byp => ip = some i ∧ (s.get j).c.cls = .invokeFunc
  | _ => i = j

/-- the round of `j` is made, and in it provider `i` asks for its parameters `p` -/
def Round (s : Chain) (ip : Option Nat) (p : Param) (i j : Nat) : Prop :=
  j < s.length ∧ (s.get j).cannot = false ∧ Pivot s ip p i j

/-- provider `i` asks for the type `t` among its parameters `p` and gets the answer `r` -/
def Asked (ti : TyInfo) (s : Chain) (ip : Option Nat) (p : Param) (i : Nat) (t : Ty) (r : Option (Ty × List Nat)) : Prop :=
  ∃ j, Round s ip p i j ∧ t ∈ flowOfParam (s.get i) p ∧ t ≠ tNoType ∧
    bestMatch ti (fun q => (s.get q).c.loose) (tableBefore s (p != .recv) s.length j) t = r

theorem mem_depWrs {s : Chain} {p : Param} {i : Nat} {t : Ty} {d : Nat} {w : Wr} :
    w ∈ depWrs s p i t d ↔
      w = .use p i t d ∨ w = .usedBy (p != .recv) d t i ∨ ((s.get d).mcOf (p != .recv) = true ∧ w = .back i d) := by
  unfold depWrs
  cases (s.get d).mcOf (p != .recv) <;> simp

/-- the writes that record the answer `r` to provider `i` asking for `t` -/
inductive Wr.Answers (s : Chain) (p : Param) (i : Nat) (t : Ty) : Wr → Option (Ty × List Nat) → Prop
  | err : Answers s p i t (.err p i t) none
  | rmap {found deps} : Answers s p i t (.rmap p i t found) (some (found, deps))
  | use {found deps d} : d ∈ deps → Answers s p i t (.use p i t d) (some (found, deps))
  | usedBy {found deps d down} : d ∈ deps → (p != .recv) = down → Answers s p i t (.usedBy down d t i) (some (found, deps))
  | back {found deps d} : d ∈ deps → (s.get d).mcOf (p != .recv) = true → Answers s p i t (.back i d) (some (found, deps))

theorem Wr.Answers.ne_reset {s : Chain} {p p' : Param} {i i' : Nat} {t : Ty} {r : Option (Ty × List Nat)} {w : Wr}
    (h : w.Answers s p i t r) : w ≠ .reset p' i' := by
  rintro rfl
  cases h

theorem mem_typeWrs {ti : TyInfo} {s : Chain} {avail : IMap} {p : Param} {i : Nat} {t : Ty} {w : Wr} :
    w ∈ typeWrs ti s avail p i t ↔ w.Answers s p i t (bestMatch ti (fun q => (s.get q).c.loose) avail t) := by
  unfold typeWrs
  cases bestMatch ti (fun q => (s.get q).c.loose) avail t with
  | none => exact ⟨fun h => List.mem_singleton.mp h ▸ .err, fun h => by cases h; exact List.mem_singleton.mpr rfl⟩
  | some r =>
    obtain ⟨found, deps⟩ := r
    simp only [List.mem_cons, List.mem_flatMap, mem_depWrs]
    constructor
    · rintro (rfl | ⟨d, hd, rfl | rfl | ⟨hm, rfl⟩⟩)
      · exact .rmap
      · exact .use hd
      · exact .usedBy hd rfl
      · exact .back hd hm
    · intro h
      cases h with
      | rmap => exact Or.inl rfl
      | use hd => exact Or.inr ⟨_, hd, Or.inl rfl⟩
      | usedBy hd e => exact Or.inr ⟨_, hd, Or.inr (Or.inl (e ▸ rfl))⟩
      | back hd hm => exact Or.inr ⟨_, hd, Or.inr (Or.inr ⟨hm, rfl⟩)⟩

theorem mem_reqWrs {ti : TyInfo} {s : Chain} {avail : IMap} {p : Param} {i : Nat} {w : Wr} :
    w ∈ reqWrs ti s avail p i ↔ w = .reset p i ∨
      ∃ t, t ∈ flowOfParam (s.get i) p ∧ t ≠ tNoType ∧ w.Answers s p i t (bestMatch ti (fun q => (s.get q).c.loose) avail t) := by
  simp only [reqWrs, List.mem_cons, List.mem_flatMap, List.mem_filter, bne_iff_ne, ne_eq, mem_typeWrs, and_assoc]

theorem mem_roundWrs {ti : TyInfo} {s : Chain} {ip : Option Nat} {down : Bool} {avail : IMap} {j : Nat} {w : Wr} :
    w ∈ roundWrs ti s ip down avail j ↔ (s.get j).cannot = false ∧
      (w = .clearUsedBy down j ∨ ∃ p i, (p != .recv) = down ∧ Pivot s ip p i j ∧
        (w ∈ reqWrs ti s avail p i ∨ (p = .byp ∧ w = .clearByp i))) := by
  unfold roundWrs
  cases hc : (s.get j).cannot with
  | true => rewrite [if_pos rfl]; exact ⟨fun h => absurd h List.not_mem_nil, fun h => Bool.noConfusion h.1⟩
  | false =>
    rewrite [if_neg Bool.false_ne_true, List.mem_append, List.mem_singleton, or_comm]
    refine (or_congr_right ⟨fun h => ?_, ?_⟩).trans (and_iff_right rfl).symm
    · cases down with
      | false => exact ⟨.recv, j, rfl, rfl, Or.inl h⟩
      | true =>
        rcases List.mem_append.mp h with h | h
        · cases ip with
          | none => exact absurd h List.not_mem_nil
          | some k =>
            generalize hcls : ((s.get j).c.cls == .invokeFunc) = e at h
            cases e with
            | false => exact absurd h List.not_mem_nil
            | true =>
              exact ⟨.byp, k, rfl, ⟨rfl, eq_of_beq hcls⟩, (List.mem_cons.mp h).symm.imp id fun h => ⟨rfl, h⟩⟩
        · exact ⟨.inp, j, rfl, rfl, Or.inl h⟩
    · rintro ⟨p, i, rfl, hpv, h⟩
      cases p with
      | recv =>
        cases hpv
        rcases h with h | ⟨h, _⟩
        · exact h
        · cases h
      | inp =>
        cases hpv
        rcases h with h | ⟨h, _⟩
        · exact List.mem_append_right _ h
        · cases h
      | byp =>
        obtain ⟨rfl, hcls⟩ := hpv
        apply List.mem_append_left
        rewrite [hcls]
        rcases h with h | ⟨_, h⟩
        · exact List.mem_cons_of_mem _ h
        · rewrite [h]; exact List.mem_cons_self

/-- which writes are made -/
inductive Written (ti : TyInfo) (s : Chain) (ip : Option Nat) : Wr → Prop
  | answer {p i t r w} : Asked ti s ip p i t r → w.Answers s p i t r → Written ti s ip w
  | reset {p i j} : Round s ip p i j → Written ti s ip (.reset p i)
  | clearByp {i j} : Round s ip .byp i j → Written ti s ip (.clearByp i)
  | clearUsedBy {down j} : j < s.length → (s.get j).cannot = false → Written ti s ip (.clearUsedBy down j)

theorem mem_trace {ti : TyInfo} {s : Chain} {ip : Option Nat} {w : Wr} : w ∈ trace ti s ip ↔ Written ti s ip w := by
  constructor
  · intro h
    obtain ⟨⟨down, j⟩, hr, hw⟩ := List.mem_flatMap.mp h
    dsimp only at hw
    have hj := mem_rounds.mp hr
    obtain ⟨hc, rfl | ⟨p, i, rfl, hpv, hw | ⟨rfl, rfl⟩⟩⟩ := mem_roundWrs.mp hw
    · exact .clearUsedBy hj hc
    · rcases mem_reqWrs.mp hw with rfl | ⟨t, ht, hn, ha⟩
      · exact .reset ⟨hj, hc, hpv⟩
      · exact .answer ⟨j, ⟨hj, hc, hpv⟩, ht, hn, rfl⟩ ha
    · exact .clearByp ⟨hj, hc, hpv⟩
  · -- a write of the round of `j`, made for `i` asking for `p`
    have round : ∀ {w p i j down}, (p != .recv) = down → Round s ip p i j →
        w ∈ reqWrs ti s (tableBefore s down s.length j) p i ∨ (p = .byp ∧ w = .clearByp i) → w ∈ trace ti s ip :=
      fun e hr h => List.mem_flatMap.mpr
        ⟨(_, _), mem_rounds.mpr hr.1, mem_roundWrs.mpr ⟨hr.2.1, Or.inr ⟨_, _, e, hr.2.2, h⟩⟩⟩
    intro h
    cases h with
    | answer ha hw =>
      obtain ⟨j, hr, ht, hn, rfl⟩ := ha
      exact round rfl hr (Or.inl (mem_reqWrs.mpr (Or.inr ⟨_, ht, hn, hw⟩)))
    | reset hr => exact round rfl hr (Or.inl (mem_reqWrs.mpr (Or.inl rfl)))
    | clearByp hr => exact round rfl hr (Or.inr ⟨rfl, rfl⟩)
    | @clearUsedBy down j hj hc =>
      exact List.mem_flatMap.mpr ⟨(down, j), mem_rounds.mpr hj, mem_roundWrs.mpr ⟨hc, Or.inl rfl⟩⟩

/-- in the round of `j`, provider `i` asking for `t` among its parameters `p` is given `found`, offered by `d` -/
structure Answer (ti : TyInfo) (s : Chain) (ip : Option Nat) (p : Param) (i : Nat) (t found : Ty) (d j : Nat) : Prop where
  pivot : Pivot s ip p i j
  round : j < s.length ∧ (s.get j).cannot = false
  source : d < s.length ∧ (s.get d).cannot = false
  side : Ahead (p != .recv) d j
  offers : found ∈ offered s (p != .recv) d
  fits : found = t ∨ ti.implements found t = true
  asked : t ∈ flowOfParam (s.get i) p ∧ t ≠ tNoType
  /-- when `d` offers `t` the table has an entry for `t` itself, and such an entry wins -/
  exact : t ∈ offered s (p != .recv) d → found = t

theorem Asked.answer {ti : TyInfo} {s : Chain} {ip : Option Nat} {p : Param} {i : Nat} {t found : Ty} {deps : List Nat} {d : Nat}
    (h : Asked ti s ip p i t (some (found, deps))) (hd : d ∈ deps) : ∃ j, Answer ti s ip p i t found d j := by
  obtain ⟨j, ⟨hj, hc, hpv⟩, ht, hn, hb⟩ := h
  obtain ⟨e, he, hk, hde, _, hft⟩ := bm_entry hb
  obtain ⟨hside, hcd, hoff⟩ := lists_tableBefore.mp ⟨e, he, hk, hde d hd⟩
  exact ⟨j, hpv, ⟨hj, hc⟩, ⟨hside.1, hcd⟩, hside.2, hoff, hft.imp id (·.2.2), ⟨ht, hn⟩,
    fun hto => hft.resolve_right fun hne => hne.1 (lists_tableBefore.mpr ⟨hside, hcd, hto⟩).hasKey⟩

/-- a provider asks for its inputs, and for what it receives, once -/
theorem Asked.unique {ti : TyInfo} {s : Chain} {ip : Option Nat} {p : Param} {i : Nat} {t : Ty} {r r' : Option (Ty × List Nat)}
    (hp : p ≠ .byp) (h : Asked ti s ip p i t r) (h' : Asked ti s ip p i t r') : r = r' := by
  obtain ⟨j, ⟨_, _, hpv⟩, _, _, hb⟩ := h
  obtain ⟨j', ⟨_, _, hpv'⟩, _, _, hb'⟩ := h'
  have hj : j = j' := by
    cases p with
    | byp => exact absurd rfl hp
    | inp | recv => exact hpv.symm.trans hpv'
  rw [← hb, ← hb', hj]

theorem use_asked {ti : TyInfo} {s : Chain} {ip : Option Nat} {p : Param} {i : Nat} {t : Ty} {d : Nat}
    (h : .use p i t d ∈ trace ti s ip) : ∃ found deps, Asked ti s ip p i t (some (found, deps)) ∧ d ∈ deps := by
  cases mem_trace.mp h with
  | answer ha hw => cases hw with | use hd => exact ⟨_, _, ha, hd⟩

theorem use_facts {ti : TyInfo} {s : Chain} {ip : Option Nat} {p : Param} {i : Nat} {t : Ty} {d : Nat}
    (h : .use p i t d ∈ trace ti s ip) : ∃ j found, Answer ti s ip p i t found d j := by
  obtain ⟨found, deps, ha, hd⟩ := use_asked h
  obtain ⟨j, r⟩ := ha.answer hd
  exact ⟨j, found, r⟩

theorem use_siblings {ti : TyInfo} {s : Chain} {ip : Option Nat} {p : Param} {i : Nat} {t : Ty} {d : Nat}
    (h : .use p i t d ∈ trace ti s ip) : .usedBy (p != .recv) d t i ∈ trace ti s ip ∧
      ((s.get d).mcOf (p != .recv) = true → .back i d ∈ trace ti s ip) := by
  obtain ⟨found, deps, ha, hd⟩ := use_asked h
  exact ⟨mem_trace.mpr (.answer ha (.usedBy hd rfl)), fun hm => mem_trace.mpr (.answer ha (.back hd hm))⟩

theorem use_of_usedBy {ti : TyInfo} {s : Chain} {ip : Option Nat} {down : Bool} {i : Nat} {t : Ty} {d : Nat}
    (h : .usedBy down d t i ∈ trace ti s ip) : ∃ p, (p != .recv) = down ∧ .use p i t d ∈ trace ti s ip := by
  cases mem_trace.mp h with
  | answer ha hw => cases hw with | usedBy hd e => exact ⟨_, e, mem_trace.mpr (.answer ha (.use hd))⟩

theorem use_of_back {ti : TyInfo} {s : Chain} {ip : Option Nat} {i d : Nat}
    (h : .back i d ∈ trace ti s ip) : ∃ p t, .use p i t d ∈ trace ti s ip := by
  cases mem_trace.mp h with
  | answer ha hw => cases hw with | back hd _ => exact ⟨_, _, mem_trace.mpr (.answer ha (.use hd))⟩

theorem use_bounds {ti : TyInfo} {s : Chain} {ip : Option Nat} (hip : ∀ k, ip = some k → k < s.length)
    {p : Param} {i : Nat} {t : Ty} {d : Nat} (h : .use p i t d ∈ trace ti s ip) : i < s.length ∧ d < s.length := by
  obtain ⟨j, _, a⟩ := use_facts h
  refine ⟨?_, a.source.1⟩
  cases p with
  | inp => cases a.pivot; exact a.round.1
  | recv => cases a.pivot; exact a.round.1
  | byp => exact hip i a.pivot.1

theorem reset_mem_roundWrs {ti : TyInfo} {s : Chain} {ip : Option Nat} {down : Bool} {avail : IMap} {p : Param} {i j : Nat}
    (hp : p ≠ .byp) (h : .reset p i ∈ roundWrs ti s ip down avail j) : i = j ∧ down = (p != .recv) := by
  obtain ⟨_, h | ⟨p', i', rfl, hpv, h | ⟨_, h⟩⟩⟩ := mem_roundWrs.mp h
  · cases h
  · rcases mem_reqWrs.mp h with h | ⟨_, _, _, ha⟩
    · cases h
      cases p with
      | byp => exact absurd rfl hp
      | inp | recv => exact ⟨hpv, rfl⟩
    · exact absurd rfl ha.ne_reset
  · cases h

end Nject
