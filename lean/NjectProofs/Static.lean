import NjectProofs.Refine
/-
  The STATIC chain: `execStatic` refines `specStatic`, from one `Rep` to the next.
-/
namespace Nject

theorem applyLits_rep {m : Maps} {len : Nat} (hs : SlotsOK m len)
    (nodes : List SNode) {v : VC} {e : Env} (h : Rep m len v e Env.empty) :
    Rep m len (applyLitsV m nodes v) (applyLitsE nodes e) Env.empty := by
  induction nodes generalizing v e with
  | nil => exact h
  | cons n rest ih =>
    rewrite [applyLitsV, applyLitsE]
    cases n.lit with
    | none => exact ih h
    | some x => exact ih (h.wrD hs _ _)

theorem wfStatic_cons {d : Ty → Option Nat} {n : SNode} {rest : List SNode} (h : wfStatic d (n :: rest) = true) :
    (n.lit = none → ∀ t ∈ n.ins, (d t).isSome) ∧
    (n.fallible = true → ∀ t, (d t).isSome → (t ∈ n.zero ↔ t ∈ laterOuts rest)) ∧
    wfStatic d rest = true := by
  simp only [wfStatic, Bool.and_eq_true, Bool.or_eq_true, List.all_eq_true, Bool.not_eq_true',
    List.contains_eq_mem, decide_eq_true_eq] at h
  obtain ⟨⟨hins, hz⟩, hrest⟩ := h
  refine ⟨fun hl => hins.resolve_left (by rewrite [hl]; nofun), fun hf t hsl => ?_, hrest⟩
  obtain ⟨h1, h2⟩ := hz.resolve_left (by rewrite [hf]; nofun)
  have ne : ¬ (d t).isSome = false := fun h => by rewrite [h] at hsl; cases hsl
  exact ⟨fun hm => (h2 t hm).resolve_left ne, fun hm => (h1 t hm).resolve_left ne⟩

theorem exec_refines_spec_static (b : Beh) {m : Maps} {len : Nat} (hs : SlotsOK m len) :
    ∀ (nodes : List SNode), wfStatic m.d nodes = true →
      ∀ {v : VC} {down : Env} (st : St), Rep m len v down Env.empty →
        (execStatic b m nodes v st).2 = (specStatic b nodes down st).2 ∧
        Rep m len (execStatic b m nodes v st).1 (specStatic b nodes down st).1 Env.empty := by
  intro nodes
  induction nodes with
  | nil => exact fun _ _ _ _ h => ⟨rfl, h⟩
  | cons n rest ih =>
    intro hwf v down st h
    obtain ⟨hins, hz, hrest⟩ := wfStatic_cons hwf
    replace ih := fun {v down} => @ih hrest v down
    cases hlit : n.lit with
    | some x =>
      simp only [execStatic, specStatic, hlit]
      exact ih _ (h.wrD hs _ _)
    | none =>
      simp only [execStatic, specStatic, hlit, h.rdD (hins hlit)]
      generalize hfail : (n.fallible && isErr _) = fails
      cases fails with
      | true =>
        -- the zero list and the later outputs agree on slotted types, so zeroing either is the same
        have hz0 := h.zeroD hs n.zero
        have hzero : Rep m len (zeroSlots m.d v n.zero) (down.zero (laterOuts rest)) Env.empty :=
          ⟨hz0.len, hz0.d.congr fun t hsl => by
            simp only [rd_zero, hz (Bool.and_eq_true_iff.mp hfail).1 t hsl], hz0.u⟩
        exact ⟨rfl, applyLits_rep hs rest (hzero.wrD hs _ _)⟩
      | false => exact ih _ (h.wrD hs _ _)

end Nject
