import NjectProofs.IncludeTrace
import NjectProofs.IncludeFix
/-
  One validation, two readings of one provider: the validity check run on a chain `x` and on `x.upd d reqF` (the same chain
  with provider `d` Required) go in lockstep until `d` is looked at while marked "cannot be included".  There the second run
  fails with "required but ..."; the first goes on and leaves `d` out -- unless it is a trial and `d` is Desired, in which case
  it fails too.  `Lock` lists the four possible pairs of outcomes; every stage of `validate` produces one of them
  (`checkPass_lock`, `checkFlows_lock`, `validate_lock`; the first loop is a `map`, `validate_eq`).  So the check drops a
  Desired provider exactly when the same check with the provider Required fails.
-/
namespace Nject

/-- the same provider, Required instead of Desired or auto-desired (`wanted` is computed from the other two flags) -/
def reqF (f : IP) : IP := { f with wanted := false, c := { f.c with required := true, desired := false } }

/-- `y` is `x` with provider `d` made Required -/
def RelD (d : Nat) (x y : Chain) : Prop :=
  y.length = x.length ∧ ∀ j, y.get j = if j = d then reqF (x.get j) else x.get j

/-- `reqF` moves the default record, which pins `d` inside the chain: the relation is an equation -/
theorem RelD_iff {d : Nat} {x y : Chain} : RelD d x y ↔ d < x.length ∧ y = x.upd d reqF := by
  constructor
  · intro h
    have hd : d < x.length := by
      refine Nat.lt_of_not_le fun hle => ?_
      have := h.2 d
      rewrite [if_pos rfl, Chain.get_of_le x hle, Chain.get_of_le y (h.1 ▸ hle)] at this
      exact Bool.noConfusion (congrArg (·.c.required) this)
    refine ⟨hd, Chain.ext_get (by rewrite [Chain.length_upd]; exact h.1) fun j => ?_⟩
    rewrite [h.2 j, Chain.get_upd]
    by_cases hj : j = d
    · rw [if_pos hj, if_pos ⟨hj, hj ▸ hd⟩]
    · rw [if_neg hj, if_neg fun hh => hj hh.1]
  · rintro ⟨hd, rfl⟩
    refine ⟨Chain.length_upd x d reqF, fun j => ?_⟩
    rewrite [Chain.get_upd]
    by_cases hj : j = d
    · rw [if_pos hj, if_pos ⟨hj, hj ▸ hd⟩]
    · rw [if_neg hj, if_neg fun hh => hj hh.1]

theorem reqF_blind : FlowBlind reqF := ⟨fun _ _ => rfl, fun _ => rfl⟩

/-- **the flow computation ignores the Required / Desired flags** -/
theorem providesReturns_RelD {d : Nat} {x y : Chain} (h : RelD d x y) (ti : TyInfo) (initPos : Option Nat) :
    RelD d (providesReturns ti x initPos) (providesReturns ti y initPos) := by
  obtain ⟨hd, rfl⟩ := RelD_iff.mp h
  rewrite [providesReturns_upd reqF_blind]
  exact RelD_iff.mpr ⟨by rewrite [providesReturns_length ti x initPos]; exact hd, rfl⟩

theorem get_req {α} (r : IP → α) (h : ∀ f, r (reqF f) = r f) (x : Chain) (d i : Nat) : r ((x.upd d reqF).get i) = r (x.get i) :=
  Chain.proj_upd' r h x d i

theorem req_marked_alike (x : Chain) (d j : Nat) :
    ((x.upd d reqF).get j).inc = (x.get j).inc ∧ ((x.upd d reqF).get j).cannot = (x.get j).cannot :=
  ⟨get_req (·.inc) (fun _ => rfl) x d j, get_req (·.cannot) (fun _ => rfl) x d j⟩

theorem get_req_required (x : Chain) (d i : Nat) (h : (x.get i).c.required = true) : ((x.upd d reqF).get i).c.required = true :=
  Chain.get_upd_of (Q := (·.c.required = true)) x d i h fun _ => rfl

/-- a marked provider is not the default record, so it is inside the chain and `reqF` reaches it -/
theorem get_req_marked (x : Chain) (d : Nat) (h : (x.get d).cannot = true) : ((x.upd d reqF).get d).c.required = true := by
  rewrite [Chain.get_upd_self x reqF (Chain.lt_of_get (P := fun f => f.cannot = true) h (fun hh => Bool.noConfusion hh))]; rfl

theorem localCheck_req (x : Chain) (d i : Nat) : localCheck (x.upd d reqF) ((x.upd d reqF).get i) = localCheck x (x.get i) := by
  rewrite [localCheck_congr (x.upd d reqF) x _ (fun p _ => get_req (·.inc) (fun _ => rfl) x d p), Chain.get_upd]
  split
  · -- the check reads no field that `reqF` writes (the record is named first, so that `rfl` does not unfold the lookup)
    generalize x.get i = f
    rfl
  · rfl

theorem held_true (f : IP) : f.held true = false := by
  unfold IP.held; cases (f.wanted || f.c.desired) <;> rfl

theorem FR_held {x x' : Chain} (h : FR x x') (b : Bool) (j : Nat) : (x'.get j).held b = (x.get j).held b :=
  h.proj (·.held b) (fun _ _ _ => rfl) j

/-- outcomes of a stage run on `x` (left) and on `x.upd d reqF` (right); `T` is "make `d` Required" on the stage's result, `P`
    what a result in lockstep satisfies, `Q` says that `d` is marked, `held` that the left run may not drop `d` -/
inductive Lock {σ : Type} (T : σ → σ) (P Q : σ → Prop) (held : Bool) : Except IncErr σ → Except IncErr σ → Prop
  /-- in lockstep to the end -/
  | ok (s : σ) : P s → Lock T P Q held (.ok s) (.ok (T s))
  /-- in lockstep up to a common failure -/
  | err (e : IncErr) : Lock T P Q held (.error e) (.error e)
  /-- `d` was looked at while marked: the right run failed there, the left run dropped `d` -/
  | hit (s : σ) : Q s → held = false → Lock T P Q held (.ok s) (.error .required)
  /-- ... and the left run failed there or later -/
  | hitErr (e : IncErr) : Lock T P Q held (.error e) (.error .required)

namespace Lock
variable {σ : Type} {T : σ → σ} {P Q P' Q' : σ → Prop} {held : Bool} {rx ry : Except IncErr σ}

theorem of_hit (h : ∀ s, rx = .ok s → Q s ∧ held = false) : Lock T P Q held rx (.error .required) := by
  cases rx with
  | ok s => exact .hit s (h s rfl).1 (h s rfl).2
  | error e => exact .hitErr e

theorem mono (h : Lock T P Q held rx ry) (hP : ∀ s, rx = .ok s → P s → P' s) (hQ : ∀ s, rx = .ok s → Q s → Q' s) :
    Lock T P' Q' held rx ry := by
  cases h with
  | ok s h => exact .ok s (hP s rfl h)
  | err e => exact .err e
  | hit s h hg => exact .hit s (hQ s rfl h) hg
  | hitErr e => exact .hitErr e

theorem sim {s : σ} (h : Lock T P Q held (.ok s) ry) :
    (ry = .ok (T s) ∧ P s) ∨ (ry = .error .required ∧ Q s ∧ held = false) := by
  cases h with
  | ok _ h => exact Or.inl ⟨rfl, h⟩
  | hit _ h hg => exact Or.inr ⟨rfl, h, hg⟩

theorem sim_err {e : IncErr} (h : Lock T P Q held (.error e) ry) : ry = .error e ∨ ry = .error .required := by
  cases h with
  | err => exact Or.inl rfl
  | hitErr => exact Or.inr rfl

/-- what the lockstep result satisfies and a hit excludes holds exactly when the right run succeeds -/
theorem ok_iff {s : σ} {A : Prop} (h : Lock T P Q held (.ok s) ry) (hP : P s → A) (hQ : Q s → ¬ A) : A ↔ ∃ y', ry = .ok y' := by
  cases h with
  | ok _ h => exact ⟨fun _ => ⟨_, rfl⟩, fun _ => hP h⟩
  | hit _ h _ => exact ⟨fun a => absurd a (hQ h), fun ⟨_, hy⟩ => nomatch hy⟩

theorem trial (h : Lock T P Q true rx ry) : (∃ s, rx = .ok s ∧ ry = .ok (T s) ∧ P s) ∨ (∃ e e', rx = .error e ∧ ry = .error e') := by
  cases h with
  | ok s h => exact Or.inl ⟨s, rfl, rfl, h⟩
  | err e => exact Or.inr ⟨e, e, rfl, rfl⟩
  | hit _ _ hg => cases hg
  | hitErr e => exact Or.inr ⟨e, _, rfl, rfl⟩

end Lock

theorem checkPass_seen {b : Bool} {i : Nat} {todo : List Nat} {ch : Chain} {seen redo : List Nat} (hs : seen.contains i = true) :
    checkPass b (i :: todo) ch seen redo = checkPass b todo ch seen redo := by
  rw [checkPass, if_pos hs]

theorem checkPass_marked {b : Bool} {i : Nat} {todo : List Nat} {ch : Chain} {seen redo : List Nat}
    (hs : ¬ seen.contains i = true) (hc : (ch.get i).cannot = true) :
    checkPass b (i :: todo) ch seen redo =
      if (ch.get i).c.required = true then .error .required
      else if (ch.get i).held b = true then .error .wanted
      else if (ch.get i).inc = true then
        checkPass b todo (ch.upd i fun f => { f with inc := false }) (i :: seen) (redo ++ (ch.get i).usedBy)
      else checkPass b todo ch (i :: seen) redo := by
  rewrite [checkPass, if_neg hs]
  exact if_pos hc

theorem checkPass_unmarked {b : Bool} {i : Nat} {todo : List Nat} {ch : Chain} {seen redo : List Nat}
    (hs : ¬ seen.contains i = true) (hc : ¬ (ch.get i).cannot = true) :
    checkPass b (i :: todo) ch seen redo =
      if localCheck ch (ch.get i) = true then checkPass b todo ch (i :: seen) redo
      else checkPass b todo (ch.upd i fun f => { f with cannot := true }) (i :: seen) (redo ++ [i]) := by
  rewrite [checkPass, if_neg hs]
  exact if_neg hc

abbrev updFst {β} (d : Nat) (φ : IP → IP) (acc : Chain × β) : Chain × β := (acc.1.upd d φ, acc.2)

theorem checkPass_hit {b : Bool} {d : Nat} {todo : List Nat} {x : Chain} {seen redo : List Nat} {held : Bool}
    {T : Chain × List Nat → Chain × List Nat} {P : Chain × List Nat → Prop}
    (hc : (x.get d).cannot = true) (hheld : held = false) :
    Lock T P (fun s => (s.1.get d).cannot = true) held (checkPass b todo x seen redo) (.error .required) :=
  .of_hit fun _ hs => ⟨((checkPass_steps hs).DM.2 d).2 hc, hheld⟩

theorem checkPass_lock (b : Bool) (d : Nat) (todo : List Nat) (x : Chain) (seen redo : List Nat) (inc0 held : Bool)
    (hinc : (x.get d).inc = inc0) (hheld : (x.get d).held b = held) :
    Lock (updFst d reqF) (fun s => (s.1.get d).inc = inc0) (fun s => (s.1.get d).cannot = true) held
      (checkPass b todo x seen redo) (checkPass b todo (x.upd d reqF) seen redo) := by
  have hcan : ∀ (x : Chain) i, ((x.upd d reqF).get i).cannot = (x.get i).cannot := fun x i =>
    get_req (·.cannot) (fun _ => rfl) x d i
  fun_induction checkPass b todo x seen redo with
  | case1 x seen redo => exact .ok (x, redo) hinc
  | case2 i todo x seen redo hs ih => rewrite [checkPass_seen hs]; exact ih hinc hheld
  | case3 i todo x seen redo hs fm hc hr =>
    rewrite [checkPass_marked hs ((hcan x i).trans hc), if_pos (get_req_required x d i hr)]
    exact .err _
  | case4 i todo x seen redo hs fm hc hr hw =>
    rewrite [checkPass_marked hs ((hcan x i).trans hc)]
    by_cases hid : i = d
    · subst hid; rewrite [if_pos (get_req_marked x i hc)]; exact .hitErr _
    · rewrite [Chain.get_upd_ne x reqF hid, if_neg hr, if_pos (show (x.get i).held b = true from hw)]; exact .err _
  | case5 i todo x seen redo hs seen' fm hc hr hw hi ih =>
    rewrite [checkPass_marked hs ((hcan x i).trans hc)]
    by_cases hid : i = d
    · subst hid; rewrite [if_pos (get_req_marked x i hc)]
      exact checkPass_hit (by rewrite [Chain.proj_upd' (·.cannot) (g := fun f => { f with inc := false }) (fun _ => rfl) x i i]; exact hc)
        (hheld.symm.trans (Bool.eq_false_iff.mpr hw))
    · have hd : (x.upd i fun f => { f with inc := false }).get d = x.get d := Chain.get_upd_ne x _ (Ne.symm hid)
      rewrite [Chain.get_upd_ne x reqF hid, if_neg hr, if_neg (show ¬ (x.get i).held b = true from hw), if_pos hi,
        Chain.upd_comm_ne x hid]
      exact ih (by rewrite [hd]; exact hinc) (by rewrite [hd]; exact hheld)
  | case6 i todo x seen redo hs seen' fm hc hr hw hi ih =>
    rewrite [checkPass_marked hs ((hcan x i).trans hc)]
    by_cases hid : i = d
    · subst hid; rewrite [if_pos (get_req_marked x i hc)]
      exact checkPass_hit hc (hheld.symm.trans (Bool.eq_false_iff.mpr hw))
    · rewrite [Chain.get_upd_ne x reqF hid, if_neg hr, if_neg (show ¬ (x.get i).held b = true from hw), if_neg hi]
      exact ih hinc hheld
  | case7 i todo x seen redo hs seen' fm hc hl ih =>
    rewrite [checkPass_unmarked hs (mt (hcan x i).symm.trans hc), localCheck_req, if_pos hl]
    exact ih hinc hheld
  | case8 i todo x seen redo hs seen' fm hc hl ih =>
    rewrite [checkPass_unmarked hs (mt (hcan x i).symm.trans hc), localCheck_req, if_neg hl,
      Chain.upd_comm x i d (g := fun f => { f with cannot := true }) (g' := reqF) (fun _ => by rfl)]
    exact ih (by rewrite [Chain.proj_upd' (·.inc) (g := fun f => { f with cannot := true }) (fun _ => rfl) x i d]; exact hinc)
      (by rewrite [Chain.proj_upd' (·.held b) (g := fun f => { f with cannot := true }) (fun _ => rfl) x i d]; exact hheld)

theorem checkFlows_lock (b : Bool) (d : Nat) (fuel : Nat) (todo : List Nat) (x : Chain) (inc0 held : Bool)
    (hinc : (x.get d).inc = inc0) (hheld : (x.get d).held b = held) :
    Lock (·.upd d reqF) (fun x' => (x'.get d).inc = inc0) (fun x' => (x'.get d).cannot = true) held
      (checkFlows b fuel todo x) (checkFlows b fuel todo (x.upd d reqF)) := by
  fun_induction checkFlows b fuel todo x with
  | case1 => exact .err _
  | case2 fuel todo x he => rewrite [checkFlows, if_pos he]; exact .ok x hinc
  | case3 fuel todo x he e hp =>
    rewrite [checkFlows, if_neg he]
    have := checkPass_lock b d todo x [] [] inc0 held hinc hheld
    rewrite [hp] at this
    rcases this.sim_err with hy | hy <;> rewrite [hy]
    · exact .err _
    · exact .hitErr _
  | case4 fuel todo x he x1 redo hp ih =>
    rewrite [checkFlows, if_neg he]
    have := checkPass_lock b d todo x [] [] inc0 held hinc hheld
    rewrite [hp] at this
    rcases this.sim with ⟨hy, h1⟩ | ⟨hy, h1, hg⟩ <;> rewrite [hy]
    · exact ih h1 (by rewrite [FR_held (checkPass_steps hp).FR]; exact hheld)
    · exact .of_hit fun x' hx' => ⟨((checkFlows_steps hx').DM.2 d).2 h1, hg⟩

theorem marked_reqF (f : IP) : marked (reqF f) = reqF (marked f) := by
  unfold marked
  rewrite [apply_ite reqF]; rfl

/-- the first loop fails for the Required reading exactly when it fails anyway or `d` is excluded; otherwise it leaves
    `d` included, in both -/
theorem validate_lock (b : Bool) (d : Nat) (x : Chain) (hd : d < x.length) :
    Lock (·.upd d reqF) (fun x' => (x'.get d).inc = true) (fun x' => (x'.get d).cannot = true) ((x.get d).held b)
      (validate b x) (validate b (x.upd d reqF)) := by
  have hmd : Chain.get (x.map marked) d = marked (x.get d) := by rw [Chain.get_map, if_pos hd]
  rewrite [validate_eq, validate_eq, Chain.length_upd,
    Chain.map_upd x d (g := marked) (g' := reqF) marked_reqF]
  simp only [get_req (·.excluded) fun _ => rfl]
  by_cases hx : ((List.range x.length).any fun i => (x.get i).excluded && (x.get i).c.required) = true
  · obtain ⟨i, hi, hp⟩ := List.any_eq_true.mp hx
    rewrite [Bool.and_eq_true] at hp
    rewrite [if_pos hx, if_pos (List.any_eq_true.mpr ⟨i, hi, by rewrite [hp.1, get_req_required x d i hp.2]; rfl⟩)]
    exact .err _
  · rewrite [if_neg hx]
    by_cases hex : (x.get d).excluded = true
    · rewrite [if_pos (List.any_eq_true.mpr ⟨d, List.mem_range.mpr hd, by rewrite [hex, Chain.get_upd_self x reqF hd]; rfl⟩)]
      refine .of_hit fun x' hx' => ⟨((checkFlows_steps hx').DM.2 d).2 (by rw [hmd, marked, if_pos hex]), ?_⟩
      unfold IP.held; rewrite [hex]; simp
    · rewrite [if_neg fun hy => hx ?_]
      · refine checkFlows_lock b d _ _ (x.map marked) true _ (by rw [hmd, marked, if_neg hex])
          (FR_held (FR_map x marked flagsOnly_marked) b d)
      · obtain ⟨i, hi, hp⟩ := List.any_eq_true.mp hy
        rewrite [Bool.and_eq_true] at hp
        have hid : i ≠ d := fun e => hex (e ▸ hp.1)
        rewrite [Chain.get_upd_ne x reqF hid] at hp
        exact List.any_eq_true.mpr ⟨i, hi, by rewrite [hp.1, hp.2]; rfl⟩

/-- **a trial validation gives the same verdict for both readings**, and related chains when it succeeds -/
theorem validate_trial_sim (d : Nat) (x y : Chain) (hrel : RelD d x y) (hs : Sym x) (hd : d < x.length)
    (hreq : (x.get d).c.required = false) (hdes : ((x.get d).wanted || (x.get d).c.desired) = true) (hx : (x.get d).excluded = false) :
    (∃ x' y', validate false x = .ok x' ∧ validate false y = .ok y' ∧ RelD d x' y') ∨
    (∃ e e', validate false x = .error e ∧ validate false y = .error e') := by
  obtain ⟨_, rfl⟩ := RelD_iff.mp hrel
  have hl := validate_lock false d x hd
  rewrite [show (x.get d).held false = true by simp [IP.held, hdes, hx]] at hl
  rcases hl.trial with ⟨x', hx', hy', _⟩ | h
  · exact Or.inl ⟨x', _, hx', hy', RelD_iff.mpr ⟨by rewrite [validate_length hx']; exact hd, rfl⟩⟩
  · exact Or.inr h

theorem flows_validate_lock (ti : TyInfo) (ip : Option Nat) (d : Nat) (x : Chain) (hd : d < x.length) :
    Lock (·.upd d reqF) (fun x' => (x'.get d).inc = true) (fun x' => (x'.get d).cannot = true) false
      (validate true (providesReturns ti x ip)) (validate true (providesReturns ti (x.upd d reqF) ip)) := by
  have := validate_lock true d (providesReturns ti x ip) (by rewrite [providesReturns_length ti x ip]; exact hd)
  rewrite [held_true, ← providesReturns_upd reqF_blind] at this
  exact this

def incT (f : IP) : IP := { f with inc := true }

theorem incT_blind : FlowBlind incT := ⟨fun _ _ => rfl, fun _ => rfl⟩

/-- the first loop of the validity check overwrites the flag -/
theorem validate_incT (b : Bool) (x : Chain) (d : Nat) : validate b (x.upd d incT) = validate b x := by
  rewrite [validate_eq, validate_eq, Chain.length_upd,
    Chain.map_upd_absorb x d (φ := marked) (g := incT) fun f => by unfold marked; rfl]
  simp only [Chain.proj_upd' (·.excluded) (g := incT) (fun _ => rfl), Chain.proj_upd' (·.c.required) (g := incT) (fun _ => rfl)]

end Nject
