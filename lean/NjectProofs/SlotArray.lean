import Nject.WF
/-
  The slot array against environments.  `Rel f v e`: through the slot map `f` the array `v` shows `e`;
  `Rep m n v down up` bundles both maps and the length, and every slot operation of `Exec.lean` takes
  one `Rep` to the next.  Zeroing is writing zero values, on both sides.
-/
namespace Nject

/-- what a parameter of type `t` mapped to slot `i` observes -/
def obs (v : VC) (i : Nat) (t : Ty) : Val := (v.getD i none).getD (zeroV t)

/-- the array `v` represents environment `e` on every type that `f` gives a slot -/
def Rel (f : Ty → Option Nat) (v : VC) (e : Env) : Prop :=
  ∀ t i, f t = some i → obs v i t = e.rd t

def Inj (f : Ty → Option Nat) : Prop := ∀ t1 t2 i, f t1 = some i → f t2 = some i → t1 = t2
def Disj (f g : Ty → Option Nat) : Prop := ∀ t1 t2 i, f t1 = some i → g t2 = some i → False
def Below (f : Ty → Option Nat) (n : Nat) : Prop := ∀ t i, f t = some i → i < n

theorem obs_set_same (v : VC) (i : Nat) (x : Option Val) (t : Ty) (h : i < v.length) :
    obs (v.set i x) i t = x.getD (zeroV t) := by
  simp [obs, h]

theorem obs_set_other (v : VC) (i j : Nat) (x : Option Val) (t : Ty) (h : i ≠ j) :
    obs (v.set i x) j t = obs v j t := by
  unfold obs
  rw [List.getD_eq_getElem?_getD, List.getD_eq_getElem?_getD, List.getElem?_set_ne h]

@[simp] theorem rd_set1_same (e : Env) (t : Ty) (x : Val) : (e.set1 t x).rd t = x := by
  simp [Env.rd, Env.set1]

theorem rd_set1_other (e : Env) (t t' : Ty) (x : Val) (h : t' ≠ t) : (e.set1 t x).rd t' = e.rd t' := by
  simp [Env.rd, Env.set1, h]

theorem Rel.congr {f : Ty → Option Nat} {v : VC} {e e' : Env} (h : Rel f v e)
    (he : ∀ t, (f t).isSome → e'.rd t = e.rd t) : Rel f v e' :=
  fun t i hi => (h t i hi).trans (he t (by rewrite [hi]; rfl)).symm

theorem rdIns_eq (f : Ty → Option Nat) (v : VC) (e : Env) (h : Rel f v e)
    (ts : List Ty) (hs : ∀ t ∈ ts, (f t).isSome) : rdIns f v ts = some (ts.map e.rd) := by
  induction ts with
  | nil => rfl
  | cons t ts ih =>
    have ht : (f t).isSome := hs t List.mem_cons_self
    obtain ⟨i, hi⟩ := Option.isSome_iff_exists.mp ht
    have ih := ih fun t' ht' => hs t' (List.mem_cons_of_mem _ ht')
    have := h t i hi
    simp only [obs] at this
    simp only [rdIns, hi, ih, this, List.map]

/-- `wrOuts` is a sequence of point writes: what every write to a slot and every skipped write
    preserves, it preserves -/
theorem wrOuts_induction (f : Ty → Option Nat) {P : VC → Env → Prop}
    (hset : ∀ v e t i x, f t = some i → P v e → P (v.set i (some x)) (e.set1 t x))
    (hskip : ∀ v e t x, f t = none → P v e → P v (e.set1 t x))
    (ts : List Ty) (xs : List Val) (v : VC) (e : Env) (h : P v e) : P (wrOuts f v ts xs) (e.set ts xs) := by
  induction ts generalizing xs v e with
  | nil => exact h
  | cons t ts ih =>
    cases xs with
    | nil => exact h
    | cons x xs =>
      rewrite [wrOuts, Env.set]
      cases hf : f t with
      | none => exact ih xs v _ (hskip v e t x hf h)
      | some i => exact ih xs _ _ (hset v e t i x hf h)

theorem wrOuts_length (f : Ty → Option Nat) (ts : List Ty) (xs : List Val) (v : VC) :
    (wrOuts f v ts xs).length = v.length :=
  wrOuts_induction f (P := fun w _ => w.length = v.length) (fun _ _ _ _ _ _ h => List.length_set.trans h)
    (fun _ _ _ _ _ h => h) ts xs v Env.empty rfl

theorem rel_set1 (f : Ty → Option Nat) (hinj : Inj f) (v : VC) (e : Env) (t : Ty) (i : Nat) (x : Val)
    (hf : f t = some i) (hlt : i < v.length) (h : Rel f v e) :
    Rel f (v.set i (some x)) (e.set1 t x) := by
  intro t2 j hj
  by_cases hij : i = j
  · subst hij
    have : t2 = t := hinj t2 t i hj hf
    subst this
    rewrite [obs_set_same v i (some x) t2 hlt, rd_set1_same]; rfl
  · have hne : t2 ≠ t := by
      intro heq; subst heq; rewrite [hf] at hj; exact hij (Option.some.inj hj)
    rewrite [obs_set_other v i j (some x) t2 hij, rd_set1_other e t t2 x hne]
    exact h t2 j hj

theorem rel_set1_noslot (f : Ty → Option Nat) (v : VC) (e : Env) (t : Ty) (x : Val)
    (hf : f t = none) (h : Rel f v e) : Rel f v (e.set1 t x) := by
  intro t2 j hj
  have hne : t2 ≠ t := by
    intro heq; subst heq; rewrite [hf] at hj; cases hj
  rewrite [rd_set1_other e t t2 x hne]
  exact h t2 j hj

theorem rel_set_other {f g : Ty → Option Nat} (hd : Disj f g) {v : VC} {e : Env} {t : Ty} {i : Nat}
    (x : Option Val) (hf : f t = some i) (h : Rel g v e) : Rel g (v.set i x) e := by
  intro t2 j hj
  rewrite [obs_set_other v i j x t2 fun he => hd t t2 i hf (he ▸ hj)]
  exact h t2 j hj

theorem wrOuts_rel (f : Ty → Option Nat) (hinj : Inj f) (n : Nat) (hb : Below f n) (ts : List Ty)
    (xs : List Val) (v : VC) (e : Env) (hl : v.length = n) (h : Rel f v e) :
    (wrOuts f v ts xs).length = n ∧ Rel f (wrOuts f v ts xs) (e.set ts xs) :=
  wrOuts_induction f (P := fun w e => w.length = n ∧ Rel f w e)
    (fun w e t i x hf h => ⟨List.length_set.trans h.1, rel_set1 f hinj w e t i x hf (h.1 ▸ hb t i hf) h.2⟩)
    (fun w e t x hf h => ⟨h.1, rel_set1_noslot f w e t x hf h.2⟩) ts xs v e ⟨hl, h⟩

theorem wrOuts_rel_other (f g : Ty → Option Nat) (hd : Disj f g) (ts : List Ty) (xs : List Val)
    (v : VC) (e : Env) (h : Rel g v e) : Rel g (wrOuts f v ts xs) e :=
  wrOuts_induction f (P := fun w _ => Rel g w e) (fun _ _ _ _ x hf h => rel_set_other hd (some x) hf h)
    (fun _ _ _ _ _ h => h) ts xs v Env.empty h

theorem zeroSlots_eq_wrOuts (f : Ty → Option Nat) (ts : List Ty) (v : VC) :
    zeroSlots f v ts = wrOuts f v ts (ts.map zeroV) := by
  induction ts generalizing v with
  | nil => rfl
  | cons t ts ih =>
    rewrite [zeroSlots, List.map_cons, wrOuts]
    cases f t with
    | none => exact ih v
    | some i => exact ih _

theorem copySlots_length (f : Ty → Option Nat) (src : VC) (ts : List Ty) (dst : VC) :
    (copySlots f src dst ts).length = dst.length := by
  induction ts generalizing dst with
  | nil => rw [copySlots]
  | cons t ts ih =>
    rewrite [copySlots]
    cases f t with
    | none => exact ih dst
    | some i => exact (ih _).trans List.length_set

theorem copySlots_rel {f : Ty → Option Nat} (hinj : Inj f) {src : VC} {e : Env} (hs : Rel f src e)
    (ts : List Ty) (dst : VC) (hb : Below f dst.length)
    (hd : ∀ t i, f t = some i → t ∉ ts → obs dst i t = e.rd t) : Rel f (copySlots f src dst ts) e := by
  induction ts generalizing dst with
  | nil => exact fun t i hi => hd t i hi List.not_mem_nil
  | cons t0 ts ih =>
    rewrite [copySlots]
    cases hf0 : f t0 with
    | none =>
      exact ih dst hb fun t i hi hm => hd t i hi
        (List.not_mem_cons_of_ne_of_not_mem (fun heq => by rewrite [heq, hf0] at hi; cases hi) hm)
    | some i0 =>
      refine ih _ (List.length_set.symm ▸ hb) fun t i hi hm => ?_
      by_cases heq : t = t0
      · subst heq
        obtain rfl : i0 = i := Option.some.inj (hf0.symm.trans hi)
        exact (obs_set_same dst i0 _ t (hb t i0 hi)).trans (hs t i0 hi)
      · rewrite [obs_set_other dst i0 i _ t fun hii => heq (hinj t t0 i hi (hii ▸ hf0))]
        exact hd t i hi (List.not_mem_cons_of_ne_of_not_mem heq hm)

structure SlotsOK (m : Maps) (n : Nat) : Prop where
  dinj : Inj m.d
  uinj : Inj m.u
  disj : Disj m.d m.u
  dlt : Below m.d n
  ult : Below m.u n

theorem Disj.symm {f g : Ty → Option Nat} (h : Disj f g) : Disj g f :=
  fun t1 t2 i h1 h2 => h t2 t1 i h2 h1

structure Rep (m : Maps) (n : Nat) (v : VC) (down up : Env) : Prop where
  len : v.length = n
  d : Rel m.d v down
  u : Rel m.u v up

theorem Env.zero_eq_set (ts : List Ty) (e : Env) : e.zero ts = e.set ts (ts.map zeroV) := by
  induction ts generalizing e with
  | nil => rfl
  | cons t ts ih => rewrite [Env.zero, List.map_cons, Env.set]; exact ih _

theorem rd_zero (ls : List Ty) (e : Env) (t : Ty) :
    (e.zero ls).rd t = if t ∈ ls then zeroV t else e.rd t := by
  induction ls generalizing e with
  | nil => rw [Env.zero, if_neg List.not_mem_nil]
  | cons t0 ls ih =>
    rewrite [Env.zero, ih (e.set1 t0 (zeroV t0))]
    by_cases hmem : t ∈ ls
    · simp [hmem]
    · by_cases heq : t = t0
      · subst heq; simp [hmem]
      · simp [hmem, heq, rd_set1_other e t0 t _ heq]

namespace Rep
variable {m : Maps} {n : Nat} {v : VC} {down up : Env}

theorem wrD (hs : SlotsOK m n) (h : Rep m n v down up) (ts : List Ty) (xs : List Val) :
    Rep m n (wrOuts m.d v ts xs) (down.set ts xs) up :=
  have hw := wrOuts_rel m.d hs.dinj n hs.dlt ts xs v down h.len h.d
  ⟨hw.1, hw.2, wrOuts_rel_other m.d m.u hs.disj ts xs v up h.u⟩

theorem wrU (hs : SlotsOK m n) (h : Rep m n v down up) (ts : List Ty) (xs : List Val) :
    Rep m n (wrOuts m.u v ts xs) down (up.set ts xs) :=
  have hw := wrOuts_rel m.u hs.uinj n hs.ult ts xs v up h.len h.u
  ⟨hw.1, wrOuts_rel_other m.u m.d hs.disj.symm ts xs v down h.d, hw.2⟩

theorem zeroD (hs : SlotsOK m n) (h : Rep m n v down up) (ts : List Ty) :
    Rep m n (zeroSlots m.d v ts) (down.zero ts) up := by
  rewrite [zeroSlots_eq_wrOuts, Env.zero_eq_set]; exact h.wrD hs _ _

/-- the up slots are only ever zeroed on a clean array, which stays clean: zero values read as unset ones do -/
theorem zeroU (hs : SlotsOK m n) (h : Rep m n v down Env.empty) (ts : List Ty) :
    Rep m n (zeroSlots m.u v ts) down Env.empty := by
  rewrite [zeroSlots_eq_wrOuts]
  have h' := h.wrU hs ts (ts.map zeroV)
  exact ⟨h'.len, h'.d, h'.u.congr fun t _ => by rewrite [← Env.zero_eq_set, rd_zero]; split <;> rfl⟩

theorem rdD (h : Rep m n v down up) {ts : List Ty} (hs : ∀ t ∈ ts, (m.d t).isSome) :
    rdIns m.d v ts = some (ts.map down.rd) := rdIns_eq m.d v down h.d ts hs

end Rep

end Nject
