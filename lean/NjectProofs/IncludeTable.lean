import Nject.Validate
import NjectProofs.ListFacts
/-
  The association lists of the flow computation, apart from any chain: what `appendAt` and `setKey` do to a list,
  what `IMap.add` does to the matching table, and what an answer of `bestMatch` says about the table it was given.
-/
namespace Nject

/-- `q` is listed under key `t`; `π` reads the list off an entry's value: `id` for a provider's records, `(·.2)` for the
    matching table -/
def ListsBy {β} (π : β → List Nat) (m : List (Ty × β)) (t : Ty) (q : Nat) : Prop := ∃ e ∈ m, e.1 = t ∧ q ∈ π e.2

abbrev Lists (m : List (Ty × List Nat)) (t : Ty) (q : Nat) : Prop := ListsBy id m t q

theorem Lists_nil {t : Ty} {q : Nat} : ¬ Lists [] t q := fun ⟨_, he, _⟩ => by cases he

theorem Lists_of_mem {m : List (Ty × List Nat)} {e : Ty × List Nat} {q : Nat} (he : e ∈ m) (hq : q ∈ e.2) : Lists m e.1 q :=
  ⟨e, he, rfl, hq⟩

theorem mem_flatMap_iff_Lists {m : List (Ty × List Nat)} {q : Nat} : q ∈ m.flatMap (·.2) ↔ ∃ t, Lists m t q := by
  simp only [List.mem_flatMap, ListsBy, id]
  exact ⟨fun ⟨e, he, hq⟩ => ⟨e.1, e, he, rfl, hq⟩, fun ⟨_, e, he, _, hq⟩ => ⟨e, he, hq⟩⟩

/-- the shape of `appendAt` and `IMap.add`: the entry for `k` is rewritten (it gets one more member), or an entry is appended -/
theorem ListsBy_upsert {β} (π : β → List Nat) (m : List (Ty × β)) (k : Ty) (g : Ty × β → β) (v : β) (x : Nat)
    (hg : ∀ e, π (g e) = π e.2 ++ [x]) (hv : π v = [x]) (t : Ty) (q : Nat) :
    ListsBy π (if m.any (·.1 == k) then m.map fun p => if p.1 == k then (k, g p) else p else m ++ [(k, v)]) t q ↔
      ListsBy π m t q ∨ (t = k ∧ q = x) := by
  by_cases hany : m.any (·.1 == k) = true
  · rewrite [if_pos hany]
    constructor
    · rintro ⟨e', he', rfl, hq⟩
      obtain ⟨e, he, rfl⟩ := List.mem_map.mp he'
      by_cases hk : e.1 == k
      · rewrite [if_pos hk] at hq ⊢
        rewrite [hg] at hq
        rcases List.mem_append.mp hq with hq | hq
        · exact Or.inl ⟨e, he, beq_iff_eq.mp hk, hq⟩
        · exact Or.inr ⟨rfl, List.mem_singleton.mp hq⟩
      · rewrite [if_neg hk] at hq ⊢
        exact Or.inl ⟨e, he, rfl, hq⟩
    · rintro (⟨e, he, rfl, hq⟩ | ⟨rfl, rfl⟩)
      · refine ⟨_, List.mem_map.mpr ⟨e, he, rfl⟩, ?_⟩
        by_cases hk : e.1 == k
        · rewrite [if_pos hk, hg]; exact ⟨(beq_iff_eq.mp hk).symm, List.mem_append_left _ hq⟩
        · rewrite [if_neg hk]; exact ⟨rfl, hq⟩
      · obtain ⟨e, he, hk⟩ := List.any_eq_true.mp hany
        refine ⟨_, List.mem_map.mpr ⟨e, he, rfl⟩, ?_⟩
        rewrite [if_pos hk, hg]
        exact ⟨rfl, List.mem_append_right _ (List.mem_singleton.mpr rfl)⟩
  · rewrite [if_neg hany]
    constructor
    · rintro ⟨e, he, rfl, hq⟩
      rcases List.mem_append.mp he with he | he
      · exact Or.inl ⟨e, he, rfl, hq⟩
      · cases List.mem_singleton.mp he
        rewrite [hv] at hq
        exact Or.inr ⟨rfl, List.mem_singleton.mp hq⟩
    · rintro (⟨e, he, rfl, hq⟩ | ⟨rfl, rfl⟩)
      · exact ⟨e, List.mem_append_left _ he, rfl, hq⟩
      · exact ⟨(t, v), List.mem_append_right _ (List.mem_singleton.mpr rfl), rfl, hv ▸ List.mem_singleton.mpr rfl⟩

theorem Lists_appendAt {m : List (Ty × List Nat)} {k : Ty} {v : Nat} {t : Ty} {q : Nat} :
    Lists (appendAt m k v) t q ↔ Lists m t q ∨ (t = k ∧ q = v) :=
  ListsBy_upsert id m k (fun p => p.2 ++ [v]) [v] v (fun _ => rfl) rfl t q

def hasKey {β} (m : List (Ty × β)) (t : Ty) : Prop := ∃ e ∈ m, e.1 = t

theorem ListsBy.hasKey {β} {π : β → List Nat} {m : List (Ty × β)} {t : Ty} {q : Nat} (h : ListsBy π m t q) : hasKey m t :=
  h.imp fun _ h => ⟨h.1, h.2.1⟩

theorem hasKey_add {m : IMap} {k : Ty} {layer p : Nat} {t : Ty} : hasKey (m.add k layer p) t ↔ hasKey m t ∨ t = k := by
  have hmap : ∀ e : Ty × Nat × List Nat, (if e.1 == k then (k, e.2.1, e.2.2 ++ [p]) else e).1 = e.1 := fun e => by
    cases h : e.1 == k with
    | true => exact (beq_iff_eq.mp h).symm
    | false => rfl
  unfold IMap.add
  by_cases hany : m.any (·.1 == k) = true
  · rewrite [if_pos hany]
    constructor
    · rintro ⟨e', he', rfl⟩
      obtain ⟨e, he, rfl⟩ := List.mem_map.mp he'
      exact Or.inl ⟨e, he, (hmap e).symm⟩
    · rintro (⟨e, he, rfl⟩ | rfl)
      · exact ⟨_, List.mem_map.mpr ⟨e, he, rfl⟩, hmap e⟩
      · obtain ⟨e, he, hk⟩ := List.any_eq_true.mp hany
        exact ⟨_, List.mem_map.mpr ⟨e, he, rfl⟩, (hmap e).trans (beq_iff_eq.mp hk)⟩
  · rewrite [if_neg hany]
    constructor
    · rintro ⟨e, he, rfl⟩
      rcases List.mem_append.mp he with he | he
      · exact Or.inl ⟨e, he, rfl⟩
      · exact Or.inr (by rw [List.mem_singleton.mp he])
    · rintro (⟨e, he, rfl⟩ | rfl)
      · exact ⟨e, List.mem_append_left _ he, rfl⟩
      · exact ⟨(t, layer, [p]), List.mem_append_right _ List.mem_cons_self, rfl⟩

theorem lookup_map_setKey (m : List (Ty × Ty)) (k v t : Ty) :
    (m.map fun p => if p.1 == k then (k, v) else p).lookup t =
      if t = k then (if m.any (·.1 == k) then some v else none) else m.lookup t := by
  induction m with
  | nil => exact (ite_self none).symm
  | cons e m ih =>
    obtain ⟨a, b⟩ := e
    rewrite [List.map_cons, List.any_cons]
    by_cases hak : a = k
    · subst hak
      have haa : (a == a) = true := beq_iff_eq.mpr rfl
      rewrite [if_pos haa, haa, Bool.true_or, if_pos rfl]
      by_cases hta : t = a
      · subst hta; rw [List.lookup_cons_self, if_pos rfl]
      · rw [lookup_cons_ne hta, lookup_cons_ne hta, ih, if_neg hta, if_neg hta]
    · rewrite [if_neg (mt beq_iff_eq.mp hak), beq_false_of_ne hak, Bool.false_or]
      by_cases hta : t = a
      · subst hta; rw [List.lookup_cons_self, List.lookup_cons_self, if_neg hak]
      · rw [lookup_cons_ne hta, lookup_cons_ne hta, ih]

theorem remapT_setKey_same (m : List (Ty × Ty)) (k v : Ty) : remapT (setKey m k v) k = v := by
  unfold remapT setKey
  by_cases hany : m.any (·.1 == k) = true
  · rewrite [if_pos hany, lookup_map_setKey, if_pos rfl, if_pos hany]; rfl
  · rewrite [if_neg hany]
    have hnone : m.lookup k = none := List.lookup_eq_none_iff.mpr fun p hp => bne_iff_ne.mpr fun hk =>
      hany (List.any_eq_true.mpr ⟨p, hp, beq_iff_eq.mpr hk.symm⟩)
    rewrite [List.lookup_append, hnone, Option.none_or, List.lookup_cons_self]; rfl

theorem remapT_setKey_other (m : List (Ty × Ty)) (k v t : Ty) (h : t ≠ k) : remapT (setKey m k v) t = remapT m t := by
  unfold remapT setKey
  by_cases hany : m.any (·.1 == k) = true
  · rw [if_pos hany, lookup_map_setKey, if_neg h]
  · rewrite [if_neg hany, List.lookup_append]
    cases m.lookup t with
    | some x => rfl
    | none => rewrite [Option.none_or, lookup_cons_ne h]; rfl

theorem ListsBy_add {m : IMap} {k : Ty} {layer p : Nat} {t : Ty} {q : Nat} :
    ListsBy (·.2) (m.add k layer p) t q ↔ ListsBy (·.2) m t q ∨ (t = k ∧ q = p) :=
  ListsBy_upsert (·.2) m k (fun e => (e.2.1, e.2.2 ++ [p])) (layer, [p]) p (fun _ => rfl) rfl t q

theorem add_nonempty {m : IMap} {t : Ty} {layer p : Nat} (hm : ∀ e ∈ m, e.2.2 ≠ []) : ∀ e ∈ m.add t layer p, e.2.2 ≠ [] := by
  intro e he
  unfold IMap.add at he
  by_cases hany : m.any (·.1 == t) = true
  · rewrite [if_pos hany] at he
    obtain ⟨e0, he0, rfl⟩ := List.mem_map.mp he
    by_cases hk : e0.1 == t
    · rewrite [if_pos hk]; exact List.append_ne_nil_of_right_ne_nil _ (List.cons_ne_nil _ _)
    · rewrite [if_neg hk]; exact hm e0 he0
  · rewrite [if_neg hany] at he
    rcases List.mem_append.mp he with he | he
    · exact hm e he
    · rewrite [List.mem_singleton.mp he]; exact List.cons_ne_nil _ _

theorem adds_lists (layer i : Nat) (l : List Ty) (m : IMap) (t : Ty) (q : Nat) :
    ListsBy (·.2) (l.foldl (fun (m : IMap) t => m.add t layer i) m) t q ↔ ListsBy (·.2) m t q ∨ (q = i ∧ t ∈ l) := by
  induction l generalizing m with
  | nil => exact ⟨Or.inl, fun h => h.elim id fun h => absurd h.2 List.not_mem_nil⟩
  | cons k l ih =>
    rewrite [List.foldl_cons, ih, ListsBy_add, List.mem_cons]
    constructor
    · rintro ((h | ⟨ht, hq⟩) | ⟨hq, ht⟩)
      · exact Or.inl h
      · exact Or.inr ⟨hq, Or.inl ht⟩
      · exact Or.inr ⟨hq, Or.inr ht⟩
    · rintro (h | ⟨hq, ht | ht⟩)
      · exact Or.inl (Or.inl h)
      · exact Or.inl (Or.inr ⟨ht, hq⟩)
      · exact Or.inr ⟨hq, ht⟩

theorem adds_nonempty (layer i : Nat) (l : List Ty) (m : IMap) (hm : ∀ e ∈ m, e.2.2 ≠ []) :
    ∀ e ∈ l.foldl (fun (m : IMap) t => m.add t layer i) m, e.2.2 ≠ [] :=
  List.foldlRecOn (motive := fun m : IMap => ∀ e ∈ m, e.2.2 ≠ []) l _ hm fun _ hm _ _ => add_nonempty hm

theorem bm_entry {ti : TyInfo} {loose : Nat → List Ty} {m : IMap} {want found : Ty} {deps : List Nat}
    (hb : bestMatch ti loose m want = some (found, deps)) :
    ∃ e ∈ m, e.1 = found ∧ (∀ d ∈ deps, d ∈ e.2.2) ∧ (e.2.2 ≠ [] → deps ≠ []) ∧
      (found = want ∨ (¬ hasKey m want ∧ ti.isIface want = true ∧ ti.implements found want = true)) := by
  revert hb
  fun_cases bestMatch ti loose m want with
  | case1 e he =>
    intro h
    obtain ⟨rfl, rfl⟩ := Prod.mk.inj (Option.some.inj h)
    have hk := List.find?_some he
    exact ⟨e, List.mem_of_find?_eq_some he, beq_iff_eq.mp hk, fun _ hd => hd, id, Or.inl rfl⟩
  | case2 | case3 | case4 => intro h; cases h
  | case5 hnone hif cands best be hbe ls hls =>
    intro h
    obtain ⟨rfl, rfl⟩ := Prod.mk.inj (Option.some.inj h)
    rcases foldl_best_mem _ (fun acc e => by
        cases acc with
        | none => exact Or.inl rfl
        | some be' =>
          cases hs : scoreGE [e.2.1, ti.numMethods e.1, e.1] [be'.2.1, ti.numMethods be'.1, be'.1] with
          | true => exact Or.inl (if_pos hs)
          | false => exact Or.inr (if_neg (Bool.eq_false_iff.mp hs))) cands none be hbe with hmem | hnone'
    · have hf := List.mem_filter.mp hmem
      refine ⟨be, hf.1, rfl, fun d hd => (List.mem_filter.mp hd).1, fun _ he => hls (he ▸ rfl), Or.inr ⟨?_, by simpa using hif, hf.2⟩⟩
      rintro ⟨e, he, hk⟩
      exact List.find?_eq_none.mp hnone e he (beq_iff_eq.mpr hk)
    · cases hnone'

end Nject
