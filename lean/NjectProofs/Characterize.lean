import Nject.Pipeline
/-
  `characterizeAll` one provider at a time: classify the head against the taint so far, grow the taint, go on,
  and put the head in front of its half of the result.  What an answer of `classify` / `characterize` says of the entry that
  fired; what `assemble` puts into the list besides the characterized providers.
-/
namespace Nject
open Gen

/-- the classification of the head provider when the types in `ns` are per-invocation: a provider first
    classified STATIC that consumes one of them is classified again as not static -/
def headCP (p : PDesc) (isLast : Bool) (ns : List Ty) : Option CP :=
  (characterize p isLast true).bind fun c0 =>
    if c0.group == .staticGroup && c0.inp.any (fun t => t != tUnused && ns.contains t) then characterize p isLast false
    else some c0

/-- the per-invocation types after `c`: a RUN or invoke provider's outputs are per-invocation -/
def CP.taint (c : CP) (ns : List Ty) : List Ty :=
  if c.group == .runGroup || c.group == .invokeGroup then c.out ++ ns else ns

theorem CP.contains_of_taint {c : CP} {ns : List Ty} {t : Ty} (h : (c.taint ns).contains t = false) :
    ns.contains t = false := by
  unfold CP.taint at h
  split at h
  · rewrite [List.contains_eq_mem, decide_eq_false_iff_not, List.mem_append, not_or] at h
    simpa using h.2
  · exact h

/-- `c` goes before the invoke function when it is static or a literal, after it otherwise -/
def CP.place (c : CP) (r : List CP × List CP) : List CP × List CP :=
  if c.group == .staticGroup || c.group == .literalGroup then (c :: r.1, r.2) else (r.1, c :: r.2)

theorem characterizeAll_cons (p : PDesc) (rest : List PDesc) (ns : List Ty) :
    characterizeAll (p :: rest) ns =
      (headCP p rest.isEmpty ns).bind fun c => (characterizeAll rest (c.taint ns)).map c.place := by
  rewrite [characterizeAll, headCP]
  cases characterize p rest.isEmpty true with
  | none => rfl
  | some c0 =>
    dsimp only [Option.bind]
    cases (if (c0.group == .staticGroup && c0.inp.any fun t => t != tUnused && ns.contains t) = true
        then characterize p rest.isEmpty false else some c0) with
    | none => rfl
    | some c =>
      dsimp only [CP.taint]
      cases characterizeAll rest (if (c.group == .runGroup || c.group == .invokeGroup) = true then c.out ++ ns else ns) with
      | none => rfl
      | some r => dsimp only [Option.map, CP.place]; exact (apply_ite some _ _ _).symm

theorem CP.mem_place {c c' : CP} {r : List CP × List CP} (h : c' ∈ (c.place r).1 ∨ c' ∈ (c.place r).2) :
    c' = c ∨ c' ∈ r.1 ∨ c' ∈ r.2 := by
  unfold CP.place at h
  split at h
  · exact h.elim (fun h => (List.mem_cons.mp h).imp_right Or.inl) fun h => .inr (.inr h)
  · exact h.elim (fun h => .inr (.inl h)) fun h => (List.mem_cons.mp h).imp_right Or.inr

theorem headCP_characterize {p : PDesc} {isLast : Bool} {ns : List Ty} {c : CP} (h : headCP p isLast ns = some c) :
    ∃ st, characterize p isLast st = some c := by
  obtain ⟨c0, h0, h⟩ := Option.bind_eq_some_iff.mp h
  split at h
  · exact ⟨false, h⟩
  · cases h; exact ⟨true, h0⟩

/-- every classified provider is the head classification of a listed provider, against the taint grown up to it -/
theorem characterizeAll_mem {provs : List PDesc} {ns : List Ty} {r : List CP × List CP}
    (h : characterizeAll provs ns = some r) {c : CP} (hc : c ∈ r.1 ∨ c ∈ r.2) :
    ∃ p isLast ns', headCP p isLast ns' = some c ∧ ∀ t, ns'.contains t = false → ns.contains t = false := by
  induction provs generalizing ns r with
  | nil =>
    rewrite [characterizeAll, Option.some.injEq] at h
    rewrite [← h] at hc
    exact hc.elim (fun h => absurd h List.not_mem_nil) fun h => absurd h List.not_mem_nil
  | cons p rest ih =>
    rewrite [characterizeAll_cons, Option.bind_eq_some_iff] at h
    obtain ⟨c0, h0, h⟩ := h
    obtain ⟨r', hr, rfl⟩ := Option.map_eq_some_iff.mp h
    rcases CP.mem_place hc with rfl | hin
    · exact ⟨p, _, ns, h0, fun _ h => h⟩
    · obtain ⟨q, isLast, ns', hq, mono⟩ := ih hr hin
      exact ⟨q, isLast, ns', hq, fun t ht => CP.contains_of_taint (mono t ht)⟩

theorem classify_tests_hold {reg : List Entry} {c : PredCtx} {e : Entry} (h : classifyWith reg c = some e) :
    ∀ p ∈ e.tests, p.holds c = true := by
  have := List.find?_some h
  exact List.all_eq_true.mp this

theorem classify_mem {reg : List Entry} {c : PredCtx} {e : Entry} (h : classifyWith reg c = some e) : e ∈ reg :=
  List.mem_of_find?_eq_some h

theorem characterize_group (p : PDesc) (isLast st : Bool) (c : CP) (h : characterize p isLast st = some c) :
    ∃ e, classify (mkCtx p isLast st) = some e ∧ c.group = e.group := by
  obtain ⟨e, he, rfl⟩ := Option.map_eq_some_iff.mp h
  exact ⟨e, he, rfl⟩

/-- the classification sets the switch exactly when some type is marked -/
theorem characterize_hasMustConsume (p : PDesc) (isLast inputsAreStatic : Bool) (c : CP)
    (h : characterize p isLast inputsAreStatic = some c) : c.hasMustConsume = !c.mustConsume.isEmpty := by
  obtain ⟨e, -, rfl⟩ := Option.map_eq_some_iff.mp h
  rfl

def MCok (c : CP) : Prop := c.hasMustConsume = !c.mustConsume.isEmpty

theorem addUnused_mem (funcs : List CP) (k : Nat) : ∀ c ∈ (addUnused funcs k).funcs, c ∈ funcs ∨ c = unusedInCP ∨ c = unusedRetCP := by
  intro c hc
  unfold addUnused at hc
  dsimp only at hc
  generalize (funcs.any fun f => f.inp.contains tUnused || f.byp.contains tUnused) = b at hc
  have h1 : ∀ x ∈ (if b = true then unusedInCP :: funcs else funcs), x ∈ funcs ∨ x = unusedInCP ∨ x = unusedRetCP := by
    cases b with
    | true => exact fun x hx => (List.mem_cons.mp hx).elim (fun e => .inr (.inl e)) .inl
    | false => exact fun x hx => .inl hx
  generalize (if b = true then unusedInCP :: funcs else funcs) = funcs1 at hc h1
  generalize funcs.any _ = r at hc
  cases r with
  | false => exact h1 c hc
  | true =>
    -- with a receiver of `Unused` put in front of the last provider
    rcases List.mem_append.mp hc with h | h
    · rcases List.mem_append.mp h with h | h
      · exact h1 c (List.dropLast_subset _ h)
      · exact .inr (.inr (List.mem_singleton.mp h))
    · exact h1 c (List.mem_of_mem_drop h)

theorem assemble_hasMustConsume (provs : List PDesc) (inv : Sig) (ini : Option Sig) (asm : Assembled)
    (h : assemble provs inv ini = some asm) : ∀ c ∈ asm.funcs, MCok c := by
  revert h
  fun_cases assemble provs inv ini with
  | case1 => nofun
  | case2 bi ai hc =>
    intro h
    obtain rfl := Option.some.inj h
    intro c hcm
    have hba : ∀ c, c ∈ bi ∨ c ∈ ai → MCok c := fun c hm => by
      obtain ⟨p, isLast, ns', hh, -⟩ := characterizeAll_mem hc hm
      obtain ⟨st, hst⟩ := headCP_characterize hh
      exact characterize_hasMustConsume p isLast st c hst
    -- besides the characterized providers the list holds synthetic ones, whose records are closed terms
    rcases addUnused_mem _ _ c hcm with hin | rfl | rfl
    · rcases List.mem_append.mp hin with hin | ha
      · rcases List.mem_append.mp hin with hin | hinv
        · rcases List.mem_append.mp hin with hhead | hb
          · rcases List.mem_cons.mp hhead with rfl | hi
            · rfl
            · cases ini with
              | none => cases hi
              | some s => cases List.mem_singleton.mp hi; rfl
          · exact hba c (.inl hb)
        · cases List.mem_singleton.mp hinv; rfl
      · exact hba c (.inr ha)
    · rfl
    · rfl

end Nject
