import NjectProofs.ReorderDeps
/-
  Liveness of `topo.run` (reorder.go): under an order condition on the constraint graph, every fixed
  provider is processed with its constraints met ("release"), and a Reorder'd provider whose own
  constraints are met by the fixed providers before position `kx` is emitted BEFORE the fixed provider
  at position `kx`.

  The argument is about the moments at which the loop takes the next fixed provider: both heaps are
  empty then, so every node that was ever queued has been processed.
-/
namespace Nject

/-- `j` is accounted for by the fixed providers before position `m`: it is one of them, or a type node that the
    init function or one of them releases -/
def OKset (s : TopoS) (NR : List Nat) (initT : Nat → Prop) (m j : Nat) : Prop :=
  (∃ k', k' < m ∧ NR[k']? = some j) ∨
  (s.n < j ∧ (initT j ∨ ∃ k' q, k' < m ∧ NR[k']? = some q ∧ Releases s q j))

theorem OKset.mono {s NR initT m m' j} (h : OKset s NR initT m j) (hm : m ≤ m') : OKset s NR initT m' j := by
  rcases h with ⟨k', hk, hn⟩ | ⟨hj, hi | ⟨k', q, hk, hn, hr⟩⟩
  · exact Or.inl ⟨k', Nat.lt_of_lt_of_le hk hm, hn⟩
  · exact Or.inr ⟨hj, Or.inl hi⟩
  · exact Or.inr ⟨hj, Or.inr ⟨k', q, Nat.lt_of_lt_of_le hk hm, hn, hr⟩⟩

/-- the order condition: every constraint of the fixed provider at position `k` is met by the fixed providers
    before it -- or, from position `kx` on, by `xr`; the constraints of `xr` are met by the fixed providers before `kx` -/
structure LiveHyp (s : TopoS) (NR : List Nat) (after0 : NMap) (initT : Nat → Prop) (xr kx : Nat) : Prop where
  xlt : xr < s.n
  xne : after0.get xr ≠ []
  kxle : kx ≤ NR.length
  dual : ∀ i j, j ∈ after0.get i → i ∈ s.before.get j
  a1 : ∀ k p, NR[k]? = some p → ∀ j ∈ after0.get p, OKset s NR initT k j ∨ (kx ≤ k ∧ s.n < j ∧ Releases s xr j)
  a2 : ∀ j ∈ after0.get xr, OKset s NR initT kx j

/-- `p` waits for a type that only `xr` supplies -/
def Consumer (s : TopoS) (after0 : NMap) (initT : Nat → Prop) (xr p : Nat) : Prop :=
  ∃ j ∈ after0.get p, s.n < j ∧ ¬ initT j ∧ ∀ q, Releases s q j → q = xr

def Ord (s : TopoS) (after0 : NMap) (initT : Nat → Prop) (xr : Nat) (x : Topo) : Prop :=
  ∀ (b p : Nat), x.out[b]? = some p → Consumer s after0 initT xr p → ∃ a : Nat, a < b ∧ x.out[a]? = some xr

/-- every node whose time has come -- a type node the init function or a processed provider releases, a provider whose
    `after` set has become empty -- is in a heap or has been processed; what is processed has left all `after` sets
    (with `Dep.shrink`: an `after` set is the original one without the processed nodes) -/
structure Live (s : TopoS) (after0 : NMap) (initT : Nat → Prop) (x : Topo) : Prop where
  aft : ∀ i j, j ∈ x.after.get i → j ∈ after0.get i ∧ j ∉ x.done
  relTy : ∀ q ∈ x.done, q < s.n → ∀ num, Releases s q num → x.waits num ∨ num ∈ x.done
  initTy : ∀ num, initT num → x.waits num ∨ num ∈ x.done
  ready : ∀ i, i < s.n → after0.get i ≠ [] → x.after.get i = [] → x.waits i ∨ i ∈ x.done

section
variable {s : TopoS} {NR : List Nat} {after0 : NMap} {initT : Nat → Prop} {xr kx : Nat} {x z : Topo} {i : Nat}

theorem Live.step (hs : SOK s NR) (dual : ∀ i j, j ∈ after0.get i → i ∈ s.before.get j) (h : Live s after0 initT x)
    (p : Iter s x z i true) : Live s after0 initT z := by
  have keep : ∀ m, x.waits m ∨ m ∈ x.done → z.waits m ∨ m ∈ z.done := fun m hm =>
    hm.elim (fun hw => (p.waitsDown m hw).imp_right fun e => p.mem_done.mpr (Or.inl e)) (fun hd => Or.inr (p.mem_done.mpr (Or.inr hd)))
  refine { aft := fun a b hb => ?_, relTy := fun q hq hlt num hr => ?_,
           initTy := fun num hi => keep num (h.initTy num hi), ready := fun j hj h0 he => ?_ }
  · obtain ⟨h0, hd⟩ := h.aft a b (p.aft.sub hb)
    refine ⟨h0, fun hm => ?_⟩
    obtain rfl := (p.mem_done.mp hm).resolve_right hd
    exact p.aft.del (Topo.mem_targets.mpr ⟨hd, Or.inl ⟨Or.inl rfl, dual a b h0⟩⟩) (hs.beforeLt b a (dual a b h0)) hb
  · by_cases hd : q ∈ x.done
    · exact keep num (h.relTy q hd hlt num hr)
    · obtain rfl := (p.mem_done.mp hq).resolve_right hd
      exact Or.inl (p.waitsNew num (Topo.mem_targets.mpr ⟨hd, Or.inr ⟨⟨Nat.le_of_lt hlt, rfl⟩, hr⟩⟩) (Or.inl (Nat.le_of_lt (hs.releases_gt hr))))
  · by_cases hx : x.after.get j = []
    · exact keep j (h.ready j hj h0 hx)
    · -- the set of `j` became empty in this step: `j` was released and is queued
      by_cases hjl : j ∈ Topo.targets s x i true
      · exact Or.inl (p.waitsNew j hjl (Or.inr he))
      · refine (hx (List.eq_nil_iff_forall_not_mem.mpr fun b hb => ?_)).elim
        have : b ∈ z.after.get j := (p.aft j b).mpr ⟨hb, fun _ hm => (hjl hm).elim⟩
        rewrite [he] at this; cases this

theorem Live.turn_done (hs : SOK s NR) (hl : Live s after0 initT x) (f : Full s NR x)
    (hq : x.queue = []) {m' : Nat} (hm : m' ≤ f.m) {j : Nat} (hok : OKset s NR initT m' j) :
    j ∈ x.done := by
  rcases hok with ⟨k', hk, hn⟩ | ⟨hj, hi | ⟨k', q, hk, hn, hr⟩⟩
  · exact f.crDone k' j (Nat.lt_of_lt_of_le hk hm) hn
  · exact (hl.initTy j hi).resolve_left (Topo.not_waits hq j)
  · exact (hl.relTy q (f.crDone k' q (Nat.lt_of_lt_of_le hk hm) hn) (hs.lt_of_getElem? hn) j hr).resolve_left (Topo.not_waits hq j)

theorem Live.turn_xdone (hs : SOK s NR) (H : LiveHyp s NR after0 initT xr kx) (hl : Live s after0 initT x) (f : Full s NR x)
    (hq : x.queue = []) (hk : kx ≤ f.m) : xr ∈ x.done := by
  have hempty : x.after.get xr = [] := List.eq_nil_iff_forall_not_mem.mpr fun j hj =>
    (hl.aft xr j hj).2 (hl.turn_done hs f hq hk (H.a2 j (hl.aft xr j hj).1))
  exact (hl.ready xr H.xlt H.xne hempty).resolve_left (Topo.not_waits hq xr)

theorem Live.turn_empty (hs : SOK s NR) (H : LiveHyp s NR after0 initT xr kx) (hl : Live s after0 initT x) (f : Full s NR x)
    (hq : x.queue = []) {p : Nat} (hp : NR[f.m]? = some p) : x.after.get p = [] := by
  apply List.eq_nil_iff_forall_not_mem.mpr
  intro j hj
  refine (hl.aft p j hj).2 ?_
  rcases H.a1 f.m p hp j (hl.aft p j hj).1 with hok | ⟨hk, _, hr⟩
  · exact hl.turn_done hs f hq (Nat.le_refl _) hok
  · exact (hl.relTy xr (hl.turn_xdone hs H f hq hk) H.xlt j hr).resolve_left (Topo.not_waits hq j)

theorem Ord.step (hs : SOK s NR) (f : Full s NR x) (d : Dep s after0 initT x) (o : Ord s after0 initT xr x) {rel : Bool}
    (p : Iter s x z i rel) (hemp : i < s.n → x.after.get i = []) : Ord s after0 initT xr z := by
  intro b q hb hcons
  rewrite [p.out] at hb ⊢
  by_cases hq : i ∈ x.done ∨ s.n < i
  · rewrite [if_pos hq] at hb ⊢; exact o b q hb hcons
  · rewrite [if_neg hq] at hb ⊢
    rcases getElem?_concat.mp hb with hb' | ⟨hbl, rfl⟩
    · exact (o b q hb' hcons).imp fun a ha => ⟨ha.1, getElem?_concat.mpr (Or.inl ha.2)⟩
    · -- the type node `q` waits for is done, so the one provider that releases it, `xr`, has been emitted
      obtain ⟨j, hj, hjn, hni, hsole⟩ := hcons
      have hlt : q < s.n := Nat.lt_of_le_of_ne (Nat.le_of_not_lt fun hg => hq (Or.inr hg)) (f.src_ne hs p)
      have hdn : j ∈ x.done := (d.shrink q j hj).resolve_left (by rewrite [hemp hlt]; exact List.not_mem_nil)
      obtain ⟨r, hr, hrl⟩ := (d.doneTy j hdn hjn).resolve_left hni
      obtain ⟨a, ha⟩ := List.mem_iff_getElem?.mp hr
      exact ⟨a, hbl ▸ (List.getElem?_eq_some_iff.mp ha).1, getElem?_concat.mpr (Or.inl (hsole r hrl ▸ ha))⟩

theorem loop_live (hs : SOK s NR) (H : LiveHyp s NR after0 initT xr kx) (fuel : Nat) (x : Topo)
    (hf : Nonempty (Full s NR x)) (d : Dep s after0 initT x) (l : Live s after0 initT x) (o : Ord s after0 initT xr x)
    (hfo : (Topo.loop s fuel x).fuelOut = false) :
    xr ∈ (Topo.loop s fuel x).done ∧ Ord s after0 initT xr (Topo.loop s fuel x) := by
  refine loop_induction (s := s)
    (P := fun x => Nonempty (Full s NR x) ∧ Dep s after0 initT x ∧ Live s after0 initT x ∧ Ord s after0 initT xr x)
    (Q := fun z => z.fuelOut = false → xr ∈ z.done ∧ Ord s after0 initT xr z)
    ?_ ?_ (fun _ _ h => nomatch h) fuel x ⟨hf, d, l, o⟩ hfo
  · rintro x z i rel ⟨⟨f⟩, d, l, o⟩ p
    -- a fixed provider finds its constraints met when its turn comes
    have hemp : i < s.n → x.after.get i = [] := fun hlt => by
      rcases p.src with ⟨hw, _, _⟩ | ⟨hq, hcr, _⟩
      · exact d.waitsEmpty hw hlt
      · exact l.turn_empty hs H f hq (f.next hcr)
    have hrel : rel = true := by
      rcases p.src with ⟨_, hr, _⟩ | ⟨_, hcr, hr⟩
      · exact hr
      · rewrite [hr, hemp (hs.lt_of_getElem? (f.next hcr))]; rfl
    subst hrel
    exact ⟨f.step hs p, d.step hs f p, l.step hs H.dual p, o.step hs f d p hemp⟩
  · rintro _ ⟨⟨f⟩, _, l, o⟩ hq hc _
    exact ⟨l.turn_xdone hs H f hq (Nat.le_trans H.kxle (f.all_taken hc)), o⟩

end

theorem Started.live {fs : List CP} {g : RGraph} {hasInit : Bool} {x : Topo} (st : Started fs g hasInit x) :
    Live (topoStatic fs g) (buildNodes g).after (InitReleases fs g hasInit) x where
  aft := fun _ _ hj => by rewrite [st.after] at hj; rewrite [st.done]; exact ⟨hj, List.not_mem_nil⟩
  relTy := fun q hq => by rewrite [st.done] at hq; exact absurd hq List.not_mem_nil
  initTy := fun num hi => Or.inl ((st.waits num).mpr hi)
  ready := fun i _ h0 he => by rewrite [st.after] at he; exact (h0 he).elim

end Nject
