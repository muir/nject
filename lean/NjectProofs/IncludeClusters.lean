import NjectProofs.IncludePrune
/-
  The cluster lists are coherent (`CC`): they are disjoint and hold members of Clusters only, so a trial set -- a provider in
  no Cluster, or a list -- contains a list with its leader or does not meet it; a Cluster is tried as a whole, so its members'
  flags are set together and kept or put back together.  `clusters` (include.go:120-137) builds the lists so, since the
  position it looks at is on no list yet (`CI`); drops and trials keep them so.  The elimination rounds of `pruneStages`
  therefore only ever add exclusions.
-/
namespace Nject

/-- a provider that holds a list (a leader) is on it; the lists are disjoint, hold members of Clusters only, and -- unless the
    leader is excluded itself -- none that is excluded -/
structure CC (ch : Chain) : Prop where
  self : ∀ i ms, (ch.get i).clusterMembers = some ms → i ∈ ms
  nz : ∀ i ms, (ch.get i).clusterMembers = some ms → ∀ m ∈ ms, (ch.get m).c.cluster ≠ 0
  disj : ∀ i i' ms ms' m, (ch.get i).clusterMembers = some ms → (ch.get i').clusterMembers = some ms' → m ∈ ms → m ∈ ms' → i = i'
  coh : ∀ i ms, (ch.get i).clusterMembers = some ms → (ch.get i).excluded = false → ∀ m ∈ ms, (ch.get m).excluded = false

/-- with the same classification and lists, only `coh` speaks of what has changed -/
theorem CC.congr {ch r : Chain} (hcc : CC ch) (hc : ∀ j, (r.get j).c = (ch.get j).c)
    (hm : ∀ j, (r.get j).clusterMembers = (ch.get j).clusterMembers)
    (coh : ∀ i ms, (ch.get i).clusterMembers = some ms → (r.get i).excluded = false → ∀ m ∈ ms, (r.get m).excluded = false) :
    CC r where
  self := fun i ms h => hcc.self i ms (hm i ▸ h)
  nz := fun i ms h m hmem => by rewrite [hc m]; exact hcc.nz i ms (hm i ▸ h) m hmem
  disj := fun i i' ms ms' m h h' => hcc.disj i i' ms ms' m (hm i ▸ h) (hm i' ▸ h')
  coh := fun i ms h => coh i ms (hm i ▸ h)

theorem Trial.CC {ch r : Chain} {S : List Nat} (t : Trial ch S r) (hcc : CC ch) (hw : ∀ w ∈ S, (ch.get w).excluded = false)
    (hclosed : ∀ i ms, (ch.get i).clusterMembers = some ms → (∃ m ∈ ms, m ∈ S) → i ∈ S) : CC r := by
  refine hcc.congr (fun j => (t.same j).1) (fun j => (t.same j).2.1) fun i ms h hx m hm => ?_
  obtain ⟨b, hb⟩ := t.excl hw
  by_cases hmS : m ∈ S
  · -- then the leader was tried as well, and came out not excluded: so did everybody
    have hiS := hclosed i ms h ⟨m, hm, hmS⟩
    rewrite [hb i hiS (Chain.lt_of_get (P := (·.clusterMembers = some ms)) h nofun)] at hx
    rw [hb m hmS (Chain.lt_of_get (P := (·.c.cluster ≠ 0)) (hcc.nz i ms h m hm) fun hd => hd rfl), hx]
  · rewrite [(t.other hmS).1]
    refine hcc.coh i ms h ?_ m hm
    by_cases hiS : i ∈ S
    · exact hw i hiS
    · rewrite [← (t.other hiS).1]; exact hx

/-- a trial set is a provider in no Cluster, which is on no list, or a list, which meets no other -/
theorem trial_CC {c : Chain} {i : Nat} {S : List Nat} (hcc : CC c) (hS : trialSet c i = some S) :
    EM c (tryWithout c S) ∧ CC (tryWithout c S) := by
  have t := tryWithout_trial c S
  obtain ⟨hx, ⟨hcl, rfl⟩ | ⟨_, hcm⟩⟩ := trialSet_some hS
  · have hw : ∀ w ∈ [i], (c.get w).excluded = false := fun w hw => by rewrite [List.mem_singleton.mp hw]; exact hx
    refine ⟨t.EM hw, t.CC hcc hw fun i' ms' h' hex => ?_⟩
    obtain ⟨m', hm', hmS⟩ := hex
    rewrite [List.mem_singleton.mp hmS] at hm'
    exact absurd hcl (hcc.nz i' ms' h' i hm')
  · have hw := hcc.coh i S hcm hx
    refine ⟨t.EM hw, t.CC hcc hw fun i' ms' h' hex => ?_⟩
    obtain ⟨m', hm', hmS⟩ := hex
    exact hcc.disj i i' S ms' m' hcm h' hmS hm' ▸ hcc.self i S hcm

theorem trialSet_not_mem {c : Chain} {i d : Nat} {S : List Nat} (hcc : CC c) (hS : trialSet c i = some S)
    (hcl : (c.get d).c.cluster = 0) (hid : i ≠ d) : d ∉ S := fun hd => by
  rcases (trialSet_some hS).2 with ⟨_, rfl⟩ | ⟨_, hcm⟩
  · exact hid (List.mem_singleton.mp hd).symm
  · exact hcc.nz i S hcm d hd hcl

theorem drop_CC {c : Chain} {i : Nat} (hcc : CC c) (hd : Droppable c i) :
    CC (c.upd i fun f => { f with inc := false, cannot := true, excluded := true }) := by
  refine hcc.congr (fun j => Chain.proj_upd (·.c) c i j rfl) (fun j => Chain.proj_upd (·.clusterMembers) c i j rfl)
    fun i' ms h hx m hm => ?_
  -- what is dropped is in no Cluster, so on no list
  have hne : ∀ m ∈ ms, m ≠ i := fun m hm e => hcc.nz i' ms h m hm (e ▸ hd.2.2.2.2.2.1)
  rewrite [Chain.get_upd_ne _ _ (hne i' (hcc.self i' ms h))] at hx
  rewrite [Chain.get_upd_ne _ _ (hne m hm)]
  exact hcc.coh i' ms h hx m hm

theorem roundStep_CC (c0 : Chain) (i : Nat) (hcc : CC c0) : EM c0 (roundStep c0 i) ∧ CC (roundStep c0 i) := by
  rewrite [roundStep_eq]
  cases hS : trialSet c0 i with
  | none => exact ⟨EM_refl c0, hcc⟩
  | some S => exact trial_CC hcc hS

/-- the invariant of the loop of `clusters` before it looks at position `k`: the lists hold positions below `k` only (so `k` is
    on none and, a leader being on its own list, has none), a leader on record has a list, and a provider in no Cluster is as
    it was -/
structure CI (k : Nat) (ch0 : Chain) (acc : Chain × List (Nat × Nat)) : Prop where
  cc : CC acc.1
  below : ∀ i ms, (acc.1.get i).clusterMembers = some ms → ∀ m ∈ ms, m < k
  led : ∀ e ∈ acc.2, ∃ ms, (acc.1.get e.2).clusterMembers = some ms
  other : ∀ d, (ch0.get d).c.cluster = 0 → acc.1.get d = ch0.get d

theorem CI.fresh {k : Nat} {ch0 : Chain} {acc : Chain × List (Nat × Nat)} (h : CI k ch0 acc) :
    (acc.1.get k).clusterMembers = none := by
  cases hm : (acc.1.get k).clusterMembers with
  | none => rfl
  | some ms => exact absurd (h.below k ms hm k (h.cc.self k ms hm)) (Nat.lt_irrefl k)

/-- the step of the loop: position `k` is put at the end of the list `ms0` of `x` -- its leader, or `k` itself, which has no
    list yet -/
theorem CI.put {k x : Nat} {ch0 ch : Chain} {leaders leaders' : List (Nat × Nat)} {ms0 : List Nat} (b : Bool)
    (h : CI k ch0 (ch, leaders)) (hx : (ch.get x).clusterMembers = some ms0 ∨ (x = k ∧ ms0 = []))
    (hnz : (ch.get k).c.cluster ≠ 0) (hex : (ch.get k).excluded = false)
    (hled : ∀ e ∈ leaders', e.2 = x ∨ e ∈ leaders) :
    CI (k + 1) ch0 (wicStep b k (ch.upd x fun f => { f with clusterMembers := some (ms0 ++ [k]) }), leaders') := by
  have hxnz : (ch.get x).c.cluster ≠ 0 := by
    rcases hx with hx | ⟨rfl, _⟩
    · exact h.cc.nz x ms0 hx x (h.cc.self x ms0 hx)
    · exact hnz
  have hxl : x < ch.length := Chain.lt_of_get (P := (·.c.cluster ≠ 0)) hxnz fun hd => hd rfl
  generalize hr : wicStep b k (ch.upd x fun f => { f with clusterMembers := some (ms0 ++ [k]) }) = r
  have hst : ∀ j, (r.get j).c = (ch.get j).c ∧ (r.get j).excluded = (ch.get j).excluded := fun j =>
    ((hr ▸ (ClF.upd ch x fun _ => some (ms0 ++ [k])).trans ClF.pre (ClF.wicStep b k _) : Framed (fun _ => ClF) ch r).2 j).same
  have back : ∀ j ms, (r.get j).clusterMembers = some ms →
      (x = j ∧ ms = ms0 ++ [k]) ∨ (j ≠ x ∧ (ch.get j).clusterMembers = some ms) := by
    intro j ms hj
    rewrite [← hr, wicStep_proj (·.clusterMembers) (fun _ => rfl)] at hj
    by_cases hjx : j = x
    · rewrite [hjx, Chain.get_upd_self ch _ hxl] at hj
      exact Or.inl ⟨hjx.symm, (Option.some.inj hj).symm⟩
    · rewrite [Chain.get_upd_ne ch _ hjx] at hj; exact Or.inr ⟨hjx, hj⟩
  -- who is on the new list is `k`, or was on the list of `x` before
  have mem : ∀ m ∈ ms0 ++ [k], (m ∈ ms0 ∧ (ch.get x).clusterMembers = some ms0) ∨ k = m := fun m hm =>
    (List.mem_append.mp hm).imp (fun hm0 => ⟨hm0, hx.resolve_right fun e => by rewrite [e.2] at hm0; exact absurd hm0 List.not_mem_nil⟩)
      fun hk => (List.mem_singleton.mp hk).symm
  -- and is on no other list: they were disjoint, and `k` is on none
  have cross : ∀ m ∈ ms0 ++ [k], ∀ j ms, j ≠ x → (ch.get j).clusterMembers = some ms → m ∉ ms := fun m hm j ms hj hjm hmm => by
    rcases mem m hm with ⟨hm0, hx0⟩ | rfl
    · exact hj (h.cc.disj j x ms ms0 m hjm hx0 hmm hm0)
    · exact Nat.lt_irrefl _ (h.below j ms hjm k hmm)
  exact
    { cc :=
        { self := fun j ms hj => by
            rcases back j ms hj with ⟨rfl, rfl⟩ | ⟨_, h'⟩
            · rcases hx with hx | ⟨rfl, _⟩
              · exact List.mem_append_left _ (h.cc.self x ms0 hx)
              · exact List.mem_append_right _ (List.mem_singleton_self x)
            · exact h.cc.self j ms h'
          nz := fun j ms hj m hm => by
            rewrite [(hst m).1]
            rcases back j ms hj with ⟨rfl, rfl⟩ | ⟨_, h'⟩
            · rcases mem m hm with ⟨hm0, hx0⟩ | rfl
              · exact h.cc.nz x ms0 hx0 m hm0
              · exact hnz
            · exact h.cc.nz j ms h' m hm
          disj := fun i i' ms ms' m hi hi' hm hm' => by
            rcases back i ms hi with ⟨e, rfl⟩ | ⟨hj, h1⟩ <;> rcases back i' ms' hi' with ⟨e', rfl⟩ | ⟨hj', h2⟩
            · exact e.symm.trans e'
            · exact absurd hm' (cross m hm i' ms' hj' h2)
            · exact absurd hm (cross m hm' i ms hj h1)
            · exact h.cc.disj i i' ms ms' m h1 h2 hm hm'
          coh := fun j ms hj hxj m hm => by
            rewrite [(hst m).2]; rewrite [(hst j).2] at hxj
            rcases back j ms hj with ⟨rfl, rfl⟩ | ⟨_, h'⟩
            · rcases mem m hm with ⟨hm0, hx0⟩ | rfl
              · exact h.cc.coh x ms0 hx0 hxj m hm0
              · exact hex
            · exact h.cc.coh j ms h' hxj m hm }
      below := fun j ms hj m hm => by
        rcases back j ms hj with ⟨rfl, rfl⟩ | ⟨_, h'⟩
        · rcases mem m hm with ⟨hm0, hx0⟩ | rfl
          · exact Nat.lt_succ_of_lt (h.below x ms0 hx0 m hm0)
          · exact Nat.lt_succ_self _
        · exact Nat.lt_succ_of_lt (h.below j ms h' m hm)
      led := fun e he => by
        rewrite [← hr, wicStep_proj (·.clusterMembers) (fun _ => rfl)]
        by_cases hlx : e.2 = x
        · rewrite [hlx, Chain.get_upd_self ch _ hxl]; exact ⟨_, rfl⟩
        · rewrite [Chain.get_upd_ne ch _ hlx]; exact h.led e ((hled e he).resolve_left hlx)
      other := fun d hd => by
        have e := h.other d hd
        have hc : (ch.get d).c.cluster = 0 := by rewrite [e]; exact hd
        rewrite [← hr, wicStep_get_ne _ _ fun (e' : d = k) => hnz (e' ▸ hc), Chain.get_upd_ne ch _ fun (e' : d = x) => hxnz (e' ▸ hc)]
        exact e }

theorem clStep_CI {k : Nat} {ch0 : Chain} {acc : Chain × List (Nat × Nat)} (h : CI k ch0 acc) : CI (k + 1) ch0 (clStep acc k) := by
  have hnone := h.fresh
  obtain ⟨ch, leaders⟩ := acc
  by_cases hskip : ((ch.get k).c.cluster == 0 || (ch.get k).excluded) = true
  · rewrite [clStep_skip hskip]
    exact { h with below := fun i ms hi m hm => Nat.lt_succ_of_lt (h.below i ms hi m hm) }
  · have hs : (ch.get k).c.cluster ≠ 0 ∧ (ch.get k).excluded = false := by
      simp only [Bool.or_eq_true, beq_iff_eq, not_or, Bool.not_eq_true] at hskip
      exact hskip
    cases hlk : leaders.lookup (ch.get k).c.cluster with
    | some l =>
      obtain ⟨ms0, hl⟩ := h.led _ (mem_of_lookup hlk)
      have hkl : k ≠ l := fun e => by rewrite [e, hl] at hnone; cases hnone
      -- `l` has the list `ms0`, and `k` has none to lose
      rewrite [clStep_join hskip hlk, Chain.upd_congr ch l (g' := fun f => { f with clusterMembers := some (ms0 ++ [k]) })
          (by show _ = _; rewrite [hl]; rfl),
        Chain.upd_eq_self _ k (by rewrite [Chain.get_upd_ne ch _ hkl]; generalize ch.get k = f at hnone ⊢; rw [← hnone])]
      exact h.put _ (Or.inl hl) hs.1 hs.2 fun _ he => Or.inr he
    | none =>
      rewrite [clStep_new hskip hlk]
      exact h.put (x := k) (ms0 := []) _ (Or.inr ⟨rfl, rfl⟩) hs.1 hs.2 fun e he =>
        (List.mem_append.mp he).symm.imp (fun he => congrArg Prod.snd (List.mem_singleton.mp he)) id

theorem clusters_CI (ch : Chain) (h0 : ∀ j, (ch.get j).clusterMembers = none) :
    CI ch.length ch ((List.range ch.length).foldl clStep (ch, ([] : List (Nat × Nat)))) := by
  have hn : ∀ {i ms} {p : Prop}, (ch.get i).clusterMembers = some ms → p := fun h => by rewrite [h0] at h; cases h
  refine foldl_range_induction (CI · ch) clStep ch.length (fun _ _ _ h => clStep_CI h) _ ?_
  exact
    { cc := ⟨fun _ _ h => hn h, fun _ _ h => hn h, fun _ _ _ _ _ h => hn h, fun _ _ h => hn h⟩
      below := fun _ _ h => hn h
      led := fun _ h => absurd h List.not_mem_nil
      other := fun _ _ => rfl }

theorem clusters_CC (ch : Chain) (h0 : ∀ j, (ch.get j).clusterMembers = none) : CC (clusters ch) := (clusters_CI ch h0).cc

theorem clusters_other (ch : Chain) (h0 : ∀ j, (ch.get j).clusterMembers = none) (d : Nat) (hd : (ch.get d).c.cluster = 0) :
    (clusters ch).get d = ch.get d := (clusters_CI ch h0).other d hd

theorem eliminateUnused_CC (fuel : Nat) (check : List Nat) (ch : Chain) (h : CC ch) :
    CC (eliminateUnused fuel check ch) ∧ (eliminateUnused fuel check ch).length = ch.length :=
  eliminateUnused_induction (P := fun c => CC c ∧ c.length = ch.length)
    (fun c _ hc hd => ⟨drop_CC hc.1 hd, by rewrite [Chain.length_upd]; exact hc.2⟩) fuel check ch ⟨h, rfl⟩

theorem map_cannot_fresh {ch : Chain} (h0 : ∀ j, (ch.get j).clusterMembers = none) (j : Nat) :
    (Chain.get (ch.map fun (f : IP) => if f.cannot then { f with excluded := true, inc := false } else f) j).clusterMembers = none := by
  rewrite [Chain.get_map' ch rfl, apply_ite IP.clusterMembers]; exact (ite_self _).trans (h0 j)

end Nject
