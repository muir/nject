import NjectProofs.ReorderStep
/-
  Invariants of `topo.run` (reorder.go), for any fuel and any graph that satisfies the static facts `SOK`:
  every provider index is emitted at most once, and exactly when it is marked done (so `out ++ leftOver` is a
  rearrangement of `0..n-1`); the providers not marked Reorder are emitted in their listed order, the emitted
  ones being a prefix `NR.take k` of their list `NR`.  The second needs the chain of strong "comes after the
  previous fixed provider" pairs: a fixed provider is only pushed on a heap once its `after` set is empty, and
  the previous fixed provider leaves that set only when it is itself processed.
-/
namespace Nject

/-- what `topo.run` may assume about the graph it is given (established for `buildGraph` in
    `reorderStatic_ok`, `ReorderRun.lean`) -/
structure SOK (s : TopoS) (NR : List Nat) : Prop where
  nrEq : NR = (List.range s.n).filter fun i => !s.isReorder i
  beforeLt : ∀ k j, j ∈ s.before.get k → j < s.n
  downGt : ∀ t num, s.downTypes.lookup t = some num → s.n < num
  upGt : ∀ t num, s.upTypes.lookup t = some num → s.n < num

theorem SOK.nodup {s NR} (h : SOK s NR) : NR.Nodup := by
  rewrite [h.nrEq]; exact List.Pairwise.filter _ List.nodup_range

theorem SOK.mem {s NR} (h : SOK s NR) (i : Nat) : i ∈ NR ↔ (i < s.n ∧ s.isReorder i = false) := by
  rewrite [h.nrEq]; simp

theorem SOK.idx_inj {s NR} (h : SOK s NR) {j1 j2 a : Nat} (h1 : NR[j1]? = some a) (h2 : NR[j2]? = some a) : j1 = j2 := by
  have hl : j1 < NR.length := (List.getElem?_eq_some_iff.mp h1).1
  exact (List.getElem?_inj hl h.nodup).mp (by rw [h1, h2])

theorem SOK.mem_take {s NR} (h : SOK s NR) {j k a : Nat} (hj : NR[j]? = some a) : a ∈ NR.take k ↔ j < k :=
  mem_take_iff.trans ⟨fun ⟨_, hlt, hj2⟩ => h.idx_inj hj hj2 ▸ hlt, fun hlt => ⟨j, hlt, hj⟩⟩

/-- the invariant of the sort, without the list of fixed providers -/
structure Core (s : TopoS) (NR : List Nat) (x : Topo) (k : Nat) : Prop where
  outNodup : x.out.Nodup
  outLt : ∀ i ∈ x.out, i < s.n ∧ i ∈ x.done
  doneOut : ∀ i ∈ x.done, i < s.n → i ∈ x.out
  heapNe : ∀ e, e ∈ x.unblocked ∨ e ∈ x.weakBlocked → e.2 ≠ s.n
  nrPrefix : x.out.filter (fun i => !s.isReorder i) = NR.take k
  heapNR : ∀ e, e ∈ x.unblocked ∨ e ∈ x.weakBlocked → ∀ j, NR[j]? = some e.2 → j ≤ k
  pending : ∀ j a b, NR[j]? = some a → NR[j + 1]? = some b → a ∈ x.after.get b ∨ j < k

section
variable {s : TopoS} {NR : List Nat} {x z : Topo} {k i : Nat}

theorem SOK.lt_of_getElem? (hs : SOK s NR) {j a : Nat} (hj : NR[j]? = some a) : a < s.n :=
  ((hs.mem a).mp (List.mem_iff_getElem?.mpr ⟨j, hj⟩)).1

theorem SOK.releases_gt (hs : SOK s NR) {p n : Nat} (h : Releases s p n) : s.n < n := by
  rcases h with ⟨t, _, hl⟩ | ⟨t, _, hl⟩
  · exact hs.downGt t n hl
  · exact hs.upGt t n hl

theorem SOK.targets_ne (hs : SOK s NR) {rel : Bool} {n : Nat} (h : n ∈ Topo.targets s x i rel) : n ≠ s.n := by
  rcases (Topo.mem_targets.mp h).2 with h | h
  · exact Nat.ne_of_lt (hs.beforeLt i n h.2)
  · exact Nat.ne_of_gt (hs.releases_gt h.2)

theorem Core.done_idx {s NR x k} (hs : SOK s NR) (h : Core s NR x k) {j a : Nat} (hj : NR[j]? = some a) (hd : a ∈ x.done) : j < k := by
  have hmem : a ∈ NR := List.mem_iff_getElem?.mpr ⟨j, hj⟩
  have ⟨hlt, hnr⟩ := (hs.mem a).mp hmem
  have hout := h.doneOut a hd hlt
  have : a ∈ x.out.filter (fun i => !s.isReorder i) := by simp [hout, hnr]
  rewrite [h.nrPrefix] at this
  exact (hs.mem_take hj).mp this

theorem Core.waitsNe (h : Core s NR x k) {m : Nat} (hm : x.waits m) : m ≠ s.n := by
  obtain ⟨e, he, rfl⟩ := hm; exact h.heapNe e (List.mem_append.mp he)

theorem Core.waitsNR (h : Core s NR x k) {m j : Nat} (hm : x.waits m) (hj : NR[j]? = some m) : j ≤ k := by
  obtain ⟨e, he, rfl⟩ := hm; exact h.heapNR e (List.mem_append.mp he) j hj

/-- the predecessor of a fixed provider with an empty `after` set has left that set, so is emitted -/
theorem idx_of_empty {aft : NMap} {j m : Nat} (hp : ∀ j a b, NR[j]? = some a → NR[j + 1]? = some b → a ∈ aft.get b ∨ j < k)
    (hj : NR[j]? = some m) (he : aft.get m = []) : j ≤ k := by
  cases j with
  | zero => exact Nat.zero_le k
  | succ j =>
    have hl : j + 1 < NR.length := (List.getElem?_eq_some_iff.mp hj).1
    rcases hp j _ _ (List.getElem?_eq_getElem (Nat.lt_of_succ_lt hl)) hj with hin | hlt
    · rewrite [he] at hin; exact absurd hin List.not_mem_nil
    · exact Nat.succ_le_of_lt hlt

theorem Core.step (hs : SOK s NR) (h : Core s NR x k) {rel : Bool} (p : Iter s x z i rel) (hne : i ≠ s.n)
    (hpos : ∀ j, NR[j]? = some i → j ≤ k) : ∃ k', k ≤ k' ∧ Core s NR z k' := by
  -- the emitted prefix of `NR` grows by `i` when `i` is a fixed provider met for the first time: it is `NR[k]` then
  obtain ⟨k', hk, hpre, hi⟩ : ∃ k', k ≤ k' ∧ z.out.filter (fun i => !s.isReorder i) = NR.take k' ∧ ∀ j, NR[j]? = some i → j < k' := by
    rewrite [p.out]
    by_cases hq : i ∈ x.done ∨ s.n < i
    · rewrite [if_pos hq]
      exact ⟨k, Nat.le_refl _, h.nrPrefix, fun j hj =>
        hq.elim (h.done_idx hs hj) (fun hgt => absurd (hs.lt_of_getElem? hj) (Nat.lt_asymm hgt))⟩
    · rewrite [if_neg hq, List.filter_append, h.nrPrefix]
      have hlt : i < s.n := Nat.lt_of_le_of_ne (Nat.le_of_not_lt fun hg => hq (Or.inr hg)) hne
      cases hr : s.isReorder i with
      | true =>
        refine ⟨k, Nat.le_refl _, by simp [hr], fun j hj => ?_⟩
        have := ((hs.mem i).mp (List.mem_iff_getElem?.mpr ⟨j, hj⟩)).2
        rewrite [hr] at this; cases this
      | false =>
        obtain ⟨j0, hj0⟩ := List.mem_iff_getElem?.mp ((hs.mem i).mpr ⟨hlt, hr⟩)
        have hj0k : j0 = k := by
          rcases Nat.lt_or_ge j0 k with hlt' | hge
          · have hin : i ∈ NR.take k := (hs.mem_take hj0).mpr hlt'
            rewrite [← h.nrPrefix] at hin
            exact (hq (Or.inl (h.outLt i (List.mem_filter.mp hin).1).2)).elim
          · exact Nat.le_antisymm (hpos j0 hj0) hge
        subst hj0k
        refine ⟨j0 + 1, Nat.le_succ _, by rewrite [List.take_add_one, hj0]; simp [hr], fun j hj => ?_⟩
        rewrite [hs.idx_inj hj hj0]; exact Nat.lt_succ_self _
  have hp : ∀ j a b, NR[j]? = some a → NR[j + 1]? = some b → a ∈ z.after.get b ∨ j < k' := fun j a b ha hb =>
    (h.pending j a b ha hb).elim (fun hin => if e : a = i then Or.inr (hi j (e ▸ ha)) else Or.inl (p.aft.keep hin e))
      (fun hl => Or.inr (Nat.lt_of_lt_of_le hl hk))
  refine ⟨k', hk, ?_⟩
  exact
    { outNodup := by
        rewrite [p.out]
        split
        · exact h.outNodup
        · rename_i hq
          exact List.nodup_append.mpr ⟨h.outNodup, List.pairwise_singleton _ i, fun a ha b hb hab =>
            hq (Or.inl (by rewrite [← List.mem_singleton.mp hb, ← hab]; exact (h.outLt a ha).2))⟩
      outLt := fun a ha => (p.mem_out.mp ha).elim
        (fun ha => ⟨(h.outLt a ha).1, p.mem_done.mpr (Or.inr (h.outLt a ha).2)⟩)
        (fun ha => ⟨ha.1 ▸ Nat.lt_of_le_of_ne ha.2.2 hne, p.mem_done.mpr (Or.inl ha.1)⟩)
      doneOut := fun a ha hl => p.mem_out.mpr <| (p.mem_done.mp ha).elim
        (fun e => if hd : i ∈ x.done then Or.inl (h.doneOut a (e ▸ hd) hl) else Or.inr ⟨e, hd, e ▸ Nat.le_of_lt hl⟩)
        (fun ha => Or.inl (h.doneOut a ha hl))
      heapNe := fun _ he => (p.waitsUp _ (Topo.waits_of_mem he)).elim h.waitsNe (fun hn => hs.targets_ne hn.1)
      nrPrefix := hpre
      heapNR := fun _ he j hj => (p.waitsUp _ (Topo.waits_of_mem he)).elim (fun hw => Nat.le_trans (h.waitsNR hw hj) hk)
        (fun hn => idx_of_empty hp hj (hn.2.resolve_left (Nat.not_le_of_lt (hs.lt_of_getElem? hj))))
      pending := hp }

/-- the whole invariant: `Core` plus the queue of fixed providers, a suffix of `NR` whose
    complement has been processed -/
structure Full (s : TopoS) (NR : List Nat) (x : Topo) where
  k : Nat
  m : Nat
  core : Core s NR x k
  cr : x.cannotReorder = NR.drop m
  crDone : ∀ j a, j < m → NR[j]? = some a → a ∈ x.done

theorem Full.m_le_k (hs : SOK s NR) (f : Full s NR x) (hm : f.m ≤ NR.length) : f.m ≤ f.k := by
  rcases Nat.lt_or_ge f.k f.m with hlt | hge
  · have hkl : f.k < NR.length := Nat.lt_of_lt_of_le hlt hm
    have hk : NR[f.k]? = some NR[f.k] := List.getElem?_eq_getElem hkl
    exact absurd (f.core.done_idx hs hk (f.crDone f.k _ hlt hk)) (Nat.lt_irrefl _)
  · exact hge

theorem Full.next (f : Full s NR x) {t : List Nat} (hcr : x.cannotReorder = i :: t) : NR[f.m]? = some i :=
  (drop_eq_cons (f.cr.symm.trans hcr)).1

theorem Full.all_taken (f : Full s NR x) (hc : x.cannotReorder = []) : NR.length ≤ f.m := by
  have := congrArg List.length (hc.symm.trans f.cr)
  rewrite [List.length_drop] at this
  exact Nat.le_of_sub_eq_zero this.symm

theorem Full.src_ne (hs : SOK s NR) (f : Full s NR x) {rel : Bool} (p : Iter s x z i rel) : i ≠ s.n := by
  rcases p.src with ⟨hw, _, _⟩ | ⟨_, hcr, _⟩
  · exact f.core.waitsNe hw
  · exact Nat.ne_of_lt (hs.lt_of_getElem? (f.next hcr))

theorem Full.step (hs : SOK s NR) (f : Full s NR x) {rel : Bool} (p : Iter s x z i rel) : Nonempty (Full s NR z) := by
  have hdone : ∀ a ∈ x.done, a ∈ z.done := fun a ha => p.mem_done.mpr (Or.inr ha)
  rcases p.src with ⟨hw, _, hcr⟩ | ⟨_, hcr, _⟩
  · obtain ⟨k', _, c⟩ := f.core.step hs p (f.core.waitsNe hw) (fun j hj => f.core.waitsNR hw hj)
    exact ⟨⟨k', f.m, c, hcr.trans f.cr, fun j a hj ha => hdone a (f.crDone j a hj ha)⟩⟩
  · -- `i` is `NR[m]`
    obtain ⟨hmi, hcr'⟩ := drop_eq_cons (f.cr.symm.trans hcr)
    have hml : f.m < NR.length := (List.getElem?_eq_some_iff.mp hmi).1
    obtain ⟨k', _, c⟩ := f.core.step hs p (Nat.ne_of_lt (hs.lt_of_getElem? hmi))
      (fun j hj => hs.idx_inj hj hmi ▸ f.m_le_k hs (Nat.le_of_lt hml))
    refine ⟨⟨k', f.m + 1, c, hcr', fun j a hj ha => ?_⟩⟩
    rcases Nat.lt_or_ge j f.m with hlt | hge
    · exact hdone a (f.crDone j a hlt ha)
    · have : j = f.m := Nat.le_antisymm (Nat.le_of_lt_succ hj) hge
      subst this
      rewrite [hmi] at ha
      exact p.mem_done.mpr (Or.inl (Option.some.inj ha).symm)

end

theorem loop_full {s NR} (hs : SOK s NR) : ∀ (fuel : Nat) (x : Topo), Nonempty (Full s NR x) → Nonempty (Full s NR (Topo.loop s fuel x)) :=
  loop_induction (P := fun x => Nonempty (Full s NR x)) (fun ⟨f⟩ p => f.step hs p) (fun _ h _ _ => h)
    (fun _ ⟨f⟩ => ⟨⟨f.k, f.m, ⟨f.core.outNodup, f.core.outLt, f.core.doneOut, f.core.heapNe, f.core.nrPrefix, f.core.heapNR, f.core.pending⟩,
      f.cr, f.crDone⟩⟩)

theorem full_order_perm {s NR x} (f : Full s NR x) : (x.order s).Perm (List.range s.n) := by
  have hnd : (x.order s).Nodup :=
    List.nodup_append.mpr ⟨f.core.outNodup, List.Pairwise.filter _ List.nodup_range,
      fun a ha b hb hab => (Topo.mem_leftOver.mp hb).2 (hab ▸ (f.core.outLt a ha).2)⟩
  rewrite [List.perm_ext_iff_of_nodup hnd List.nodup_range]
  intro a
  rewrite [Topo.order, List.mem_append, Topo.mem_leftOver, List.mem_range]
  constructor
  · exact fun h => h.elim (fun h => (f.core.outLt a h).1) (fun h => h.1)
  · exact fun hlt => if hd : a ∈ x.done then Or.inl (f.core.doneOut a hd hlt) else Or.inr ⟨hlt, hd⟩

theorem full_order_fixed {s NR x} (hs : SOK s NR) (f : Full s NR x) :
    (x.order s).filter (fun i => !s.isReorder i) = NR := by
  -- the fixed providers left over are `NR` without its emitted prefix `NR.take k`
  have hl : (x.leftOver s).filter (fun i => !s.isReorder i) = NR.drop f.k := by
    have e : (x.leftOver s).filter (fun i => !s.isReorder i) = NR.filter (fun a => !x.done.contains a) := by
      rw [Topo.leftOver, hs.nrEq, List.filter_filter, List.filter_filter]
      exact List.filter_congr fun a _ => Bool.and_comm _ _
    rw [e]
    conv => lhs; rw [← List.take_append_drop f.k NR]
    rw [List.filter_append, List.filter_eq_nil_iff.mpr, List.filter_eq_self.mpr, List.nil_append]
    · intro a ha
      obtain ⟨j, hj⟩ := List.mem_iff_getElem?.mp ha
      rewrite [List.getElem?_drop] at hj
      have : a ∉ x.done := fun hd => Nat.not_lt_of_le (Nat.le_add_right f.k j) (f.core.done_idx hs hj hd)
      simpa using this
    · intro a ha
      rewrite [← f.core.nrPrefix] at ha
      simp [(f.core.outLt a (List.mem_filter.mp ha).1).2]
  rw [Topo.order, List.filter_append, f.core.nrPrefix, hl, List.take_append_drop]

theorem Started.waits_gt {fs : List CP} {g : RGraph} {hasInit : Bool} {x : Topo} (st : Started fs g hasInit x)
    (hs : SOK (topoStatic fs g) g.cannotReorder) {m : Nat} (hw : x.waits m) : (topoStatic fs g).n < m := by
  obtain ⟨_, _, _, t, _, hl⟩ := (st.waits m).mp hw
  exact hs.downGt t m hl

theorem Started.full {fs : List CP} {g : RGraph} {hasInit : Bool} {x : Topo} (st : Started fs g hasInit x)
    (hs : SOK (topoStatic fs g) g.cannotReorder)
    (chain : ∀ j a b, g.cannotReorder[j]? = some a → g.cannotReorder[j + 1]? = some b → a ∈ (buildNodes g).after.get b) :
    Nonempty (Full (topoStatic fs g) g.cannotReorder x) := by
  have hgt : ∀ e, e ∈ x.unblocked ∨ e ∈ x.weakBlocked → (topoStatic fs g).n < e.2 := fun e he =>
    st.waits_gt hs (Topo.waits_of_mem he)
  refine ⟨⟨0, 0, ?_, st.cr, fun j a hj _ => absurd hj (Nat.not_lt_zero j)⟩⟩
  exact
    { outNodup := by rewrite [st.out]; exact List.nodup_nil
      outLt := fun a ha => by rewrite [st.out] at ha; cases ha
      doneOut := fun a ha => by rewrite [st.done] at ha; cases ha
      heapNe := fun e he => Nat.ne_of_gt (hgt e he)
      nrPrefix := by rewrite [st.out]; rfl
      heapNR := fun e he j hj => absurd (hs.lt_of_getElem? hj) (Nat.lt_asymm (hgt e he))
      pending := fun j a b ha hb => Or.inl (by rewrite [st.after]; exact chain j a b ha hb) }

end Nject
