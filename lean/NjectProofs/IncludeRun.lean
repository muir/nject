import NjectProofs.IncludeFix
import NjectProofs.IncludeFlows
import NjectProofs.IncludePrune
/-
  Facts about the whole include computation.  `providesReturns` (include.go:347-456) records every dependency in both
  directions: whenever provider `j`'s validity check reads the include flag of provider `p` (`p ∈ watch j`), `j` is in
  `p`'s `usedBy` list -- the hypothesis `Sym` of the fixpoint theorem, proved here for every chain, matching table and type
  universe.  And what no stage changes: the length, a provider's position, its classification and its must-consume
  switches (`SF`), which carries `pos = index` and `mcRet = true` from `initState` to the chain handed to the final
  validation, so that it satisfies `provOKB` (the other validator read on the accepted chain, `returnsConsumedB`, is unfolded
  in `returnsConsumedB_iff`).  The shape of its outcomes (`computeInclusion_ok`, `_error`), and the same
  computation started from any chain state, `includeRun`.
-/
namespace Nject

/-- membership in a dependency table that is read only under a guard -/
theorem mem_guarded {b : Bool} {m : List (Ty × List Nat)} {x : Nat} :
    x ∈ (if b then m.flatMap (·.2) else []) ↔ b = true ∧ ∃ t, Lists m t x := by
  cases b with
  | false => exact ⟨fun h => absurd h List.not_mem_nil, fun h => Bool.noConfusion h.1⟩
  | true => exact ⟨fun h => ⟨rfl, mem_flatMap_iff_Lists.mp h⟩, fun h => mem_flatMap_iff_Lists.mpr h.2⟩

theorem mem_watch {f : IP} {x : Nat} :
    x ∈ f.watch ↔ (∃ p t, Lists (f.usesOf p) t x) ∨ ∃ down t, f.mcOf down = true ∧ Lists (f.usedByOf down) t x := by
  unfold IP.watch
  simp only [List.mem_append, List.flatMap_append]
  constructor
  · rintro ((((h | h) | h) | h) | h)
    · exact Or.inl ⟨.inp, mem_flatMap_iff_Lists.mp h⟩
    · exact Or.inl ⟨.recv, mem_flatMap_iff_Lists.mp h⟩
    · exact Or.inl ⟨.byp, mem_flatMap_iff_Lists.mp h⟩
    · obtain ⟨hm, t, h⟩ := mem_guarded.mp h
      exact Or.inr ⟨true, t, hm, h⟩
    · obtain ⟨hm, t, h⟩ := mem_guarded.mp h
      exact Or.inr ⟨false, t, hm, h⟩
  · rintro (⟨p, t, h⟩ | ⟨down, t, hm, h⟩)
    · have := mem_flatMap_iff_Lists.mpr ⟨t, h⟩
      cases p
      · exact Or.inl (Or.inl (Or.inl (Or.inl this)))
      · exact Or.inl (Or.inl (Or.inl (Or.inr this)))
      · exact Or.inl (Or.inl (Or.inr this))
    · cases down
      · exact Or.inr (mem_guarded.mpr ⟨hm, t, h⟩)
      · exact Or.inl (Or.inr (mem_guarded.mpr ⟨hm, t, h⟩))

/-- **dependencies are recorded in both directions**, for every chain, matching table and type universe -/
theorem providesReturns_sym (ti : TyInfo) (ch : Chain) (initPos : Option Nat) (hip : ∀ ip, initPos = some ip → ip < ch.length) :
    Sym (providesReturns ti ch initPos) := by
  intro j p hp
  have hj := providesReturns_just ti ch initPos j
  rcases mem_watch.mp hp with ⟨prm, t, hl⟩ | ⟨down, t, hm, hl⟩
  · -- `j` uses `p`
    have hu := hj.uses prm t p hl
    exact (providesReturns_backEdges hip hu).1
  · -- `p` consumes what `j` offers, and that must be consumed
    obtain ⟨prm, hprm, hu⟩ := use_of_usedBy (hj.usedBy down t p hl)
    refine (providesReturns_backEdges hip hu).2 ?_
    rewrite [hprm, ← providesReturns_proj (IP.mcOf · down) fun _ _ => rfl]
    exact hm

theorem pruneStages_length (ch : Chain) : (pruneStages ch).length = ch.length := (pruneStages_framed ch).1

theorem initPos_lt (funcs : List CP) (ip : Nat) (h : initPosOf funcs = some ip) : ip < funcs.length := by
  unfold initPosOf at h
  obtain ⟨⟨c, i⟩, hm, hf⟩ := List.exists_of_findSome?_eq_some h
  simp only at hf
  split at hf
  · cases hf
    have := (List.of_mem_zip hm).2
    simpa using this
  · cases hf

theorem firstValidation_length (ti : TyInfo) (funcs : List CP) (cannot0 : List Nat) (ch : Chain)
    (h : firstValidation ti funcs cannot0 = .ok ch) : ch.length = funcs.length := by
  unfold firstValidation at h
  rw [validate_length h,
    providesReturns_length, initState_length]

theorem inclusionBeforeFinal_ok {ti : TyInfo} {funcs : List CP} {cannot0 : List Nat} {pre : Chain}
    (h : inclusionBeforeFinal ti funcs cannot0 = .ok pre) :
    ∃ ch1, firstValidation ti funcs cannot0 = .ok ch1 ∧ providesReturns ti (pruneStages ch1) (initPosOf funcs) = pre := by
  unfold inclusionBeforeFinal at h
  split at h
  · cases h
  · next ch1 hv => exact ⟨ch1, hv, Except.ok.inj h⟩

theorem computeInclusion_ok {ti : TyInfo} {funcs : List CP} {cannot0 : List Nat} {ch : Chain}
    (h : computeInclusion ti funcs cannot0 = .ok ch) :
    ∃ pre, inclusionBeforeFinal ti funcs cannot0 = .ok pre ∧ validate true pre = .ok ch := by
  unfold computeInclusion at h
  split at h
  · cases h
  · next pre hpre =>
    split at h
    · cases h
    · next chf hv => exact ⟨pre, hpre, Except.ok.inj h ▸ hv⟩

/-- the include computation on a chain state: flows, first validation, pruning, flows again, final validation -/
def includeRun (ti : TyInfo) (ip : Option Nat) (z : Chain) : Except IncErr Chain :=
  match validate true (providesReturns ti z ip) with
  | .error e => .error e
  | .ok ch1 => validate true (providesReturns ti (pruneStages ch1) ip)

/-- `computeInclusion` is `includeRun` on the initial state (the error of the last stage is reported as "internal") -/
theorem computeInclusion_eq_includeRun (ti : TyInfo) (funcs : List CP) (cannot0 : List Nat) (ch : Chain) :
    computeInclusion ti funcs cannot0 = .ok ch ↔ includeRun ti (initPosOf funcs) (initState funcs cannot0) = .ok ch := by
  unfold computeInclusion inclusionBeforeFinal firstValidation includeRun
  cases validate true (providesReturns ti (initState funcs cannot0) (initPosOf funcs)) with
  | error e => simp
  | ok ch1 =>
    simp only []
    cases validate true (providesReturns ti (pruneStages ch1) (initPosOf funcs)) with
    | error e => simp
    | ok c => simp

/-- an error of the include computation is the first validation's, or the "internal error" the final one's is reported as -/
theorem computeInclusion_error {ti : TyInfo} {funcs : List CP} {cannot0 : List Nat} {e : IncErr}
    (h : computeInclusion ti funcs cannot0 = .error e) : e = .internal ∨ firstValidation ti funcs cannot0 = .error e := by
  unfold computeInclusion inclusionBeforeFinal at h
  cases hv : firstValidation ti funcs cannot0 with
  | error e' => rewrite [hv] at h; exact .inr (congrArg _ (Except.error.inj h))
  | ok ch1 =>
    rewrite [hv] at h
    dsimp only at h
    cases hf : validate true (providesReturns ti (pruneStages ch1) (initPosOf funcs)) with
    | error _ => rewrite [hf] at h; exact .inl (Except.error.inj h).symm
    | ok _ => rewrite [hf] at h; cases h

theorem computeInclusion_FR {ti : TyInfo} {funcs : List CP} {cannot0 : List Nat} {pre ch : Chain}
    (hpre : inclusionBeforeFinal ti funcs cannot0 = .ok pre) (h : computeInclusion ti funcs cannot0 = .ok ch) : FR pre ch := by
  obtain ⟨pre', hpre', hv⟩ := computeInclusion_ok h
  cases hpre.symm.trans hpre'
  exact validate_FR hv

theorem initPos_lt_pruned {ti : TyInfo} {funcs : List CP} {cannot0 : List Nat} {ch1 : Chain}
    (hv : firstValidation ti funcs cannot0 = .ok ch1) : ∀ ip, initPosOf funcs = some ip → ip < (pruneStages ch1).length := by
  intro ip hip
  rewrite [pruneStages_length, firstValidation_length ti funcs cannot0 ch1 hv]
  exact initPos_lt funcs ip hip

theorem inclusionBeforeFinal_sym {ti : TyInfo} {funcs : List CP} {cannot0 : List Nat} {pre : Chain}
    (h : inclusionBeforeFinal ti funcs cannot0 = .ok pre) : Sym pre := by
  obtain ⟨ch1, hv, e⟩ := inclusionBeforeFinal_ok h
  subst e
  exact providesReturns_sym ti (pruneStages ch1) (initPosOf funcs) (initPos_lt_pruned hv)

structure SameStatic (f g : IP) : Prop where
  pos : g.pos = f.pos
  mcRet : g.mcRet = f.mcRet
  c : g.c = f.c
  mcOut : g.mcOut = f.mcOut

theorem SameStatic.pre : Framed.Pre fun _ => SameStatic :=
  ⟨fun _ _ => ⟨rfl, rfl, rfl, rfl⟩, fun h1 h2 => ⟨h2.pos.trans h1.pos, h2.mcRet.trans h1.mcRet, h2.c.trans h1.c, h2.mcOut.trans h1.mcOut⟩⟩

def SF : Chain → Chain → Prop := Framed fun _ => SameStatic

theorem providesReturns_SF (ti : TyInfo) (s : Chain) (ip : Option Nat) : SF s (providesReturns ti s ip) :=
  ⟨providesReturns_length ti s ip, fun j => ⟨providesReturns_proj IP.pos (fun _ _ => rfl) .., providesReturns_proj IP.mcRet (fun _ _ => rfl) ..,
    providesReturns_c .., providesReturns_proj IP.mcOut (fun _ _ => rfl) ..⟩⟩

theorem validate_SF {b : Bool} {ch ch' : Chain} (h : validate b ch = .ok ch') : SF ch ch' :=
  (validate_FR h).mono fun h => by unfold flagsOnly at h; rewrite [← h]; exact ⟨rfl, rfl, rfl, rfl⟩

theorem pruneStages_SF (ch : Chain) : SF ch (pruneStages ch) :=
  (pruneStages_framed ch).mono fun h => by unfold PruneF at h; rewrite [← h]; exact ⟨rfl, rfl, rfl, rfl⟩

theorem inclusionBeforeFinal_SF {ti : TyInfo} {funcs : List CP} {cannot0 : List Nat} {pre : Chain}
    (h : inclusionBeforeFinal ti funcs cannot0 = .ok pre) : SF (initState funcs cannot0) pre := by
  obtain ⟨ch1, hv, e⟩ := inclusionBeforeFinal_ok h
  subst e
  have tr {a b c : Chain} : SF a b → SF b c → SF a c := Framed.trans SameStatic.pre
  exact tr (tr (tr (providesReturns_SF ti _ _) (validate_SF hv)) (pruneStages_SF ch1)) (providesReturns_SF ti _ _)

theorem computeInclusion_c (ti : TyInfo) (funcs : List CP) (cannot0 : List Nat) (ch : Chain)
    (h : computeInclusion ti funcs cannot0 = .ok ch) (j : Nat) : (ch.get j).c = funcs.getD j default := by
  obtain ⟨pre, hpre, hv⟩ := computeInclusion_ok h
  rewrite [((validate_SF hv).2 j).c, ((inclusionBeforeFinal_SF hpre).2 j).c]
  exact initState_c funcs cannot0 j

theorem firstValidation_fresh (ti : TyInfo) (funcs : List CP) (cannot0 : List Nat) (ch1 : Chain)
    (hv : firstValidation ti funcs cannot0 = .ok ch1) (j : Nat) :
    (ch1.get j).clusterMembers = none ∧ (ch1.get j).excluded = false := by
  unfold firstValidation at hv
  have h1 := validate_FR hv
  rewrite [h1.proj IP.clusterMembers (fun _ _ _ => rfl), h1.proj IP.excluded (fun _ _ _ => rfl),
    providesReturns_proj IP.clusterMembers fun _ _ => rfl, providesReturns_proj IP.excluded fun _ _ => rfl]
  exact ⟨(initState_fields funcs cannot0 j).1, (initState_fields funcs cannot0 j).2.1⟩

theorem inclusionBeforeFinal_static (ti : TyInfo) (funcs : List CP) (cannot0 : List Nat) (pre : Chain)
    (h : inclusionBeforeFinal ti funcs cannot0 = .ok pre) :
    pre.length = funcs.length ∧ ∀ j, j < pre.length → (pre.get j).pos = j ∧ (pre.get j).mcRet = true := by
  have s := inclusionBeforeFinal_SF h
  have hl : pre.length = funcs.length := by rw [s.1, initState_length]
  refine ⟨hl, fun j hj => ?_⟩
  have ⟨p, m⟩ := (initState_fields funcs cannot0 j).2.2.2 (hl ▸ hj)
  exact ⟨(s.2 j).pos.trans p, (s.2 j).mcRet.trans m⟩

/-- the must-consume switch of the outputs is the classification's, all the way to the final validation -/
theorem inclusionBeforeFinal_mcOut (ti : TyInfo) (funcs : List CP) (cannot0 : List Nat) (pre : Chain)
    (h : inclusionBeforeFinal ti funcs cannot0 = .ok pre) :
    ∀ j, (pre.get j).mcOut = (pre.get j).c.hasMustConsume := by
  have s := inclusionBeforeFinal_SF h
  intro j
  rewrite [(s.2 j).mcOut, (s.2 j).c]
  exact (initState_fields funcs cannot0 j).2.2.1

theorem inclusionBeforeFinal_prov {ti : TyInfo} {funcs : List CP} {cannot0 : List Nat} {pre : Chain}
    (h : inclusionBeforeFinal ti funcs cannot0 = .ok pre) : ∀ d e q, e ∈ (pre.get d).usedByRet → q ∈ e.2 →
      q < d ∧ ((pre.get d).c.ret.contains e.1 = true → e.1 ≠ tUnused → (pre.get q).recvTypes.contains e.1 = true) := by
  obtain ⟨ch1, hv, e⟩ := inclusionBeforeFinal_ok h
  subst e
  exact providesReturns_prov ti (pruneStages ch1) (initPosOf funcs) (initPos_lt_pruned hv)

/-- the chain handed to the final validation satisfies `provOKB`, for every provider list -/
theorem inclusionBeforeFinal_provOK (ti : TyInfo) (funcs : List CP) (cannot0 : List Nat) (pre : Chain)
    (h : inclusionBeforeFinal ti funcs cannot0 = .ok pre) : provOKB pre = true := by
  have hst := inclusionBeforeFinal_static ti funcs cannot0 pre h
  have hprov := inclusionBeforeFinal_prov h
  unfold provOKB
  rewrite [List.all_eq_true]
  intro i hi
  obtain ⟨hp, hm⟩ := hst.2 i (List.mem_range.mp hi)
  simp only [Bool.and_eq_true, beq_iff_eq, List.all_eq_true, Bool.or_eq_true, Bool.not_eq_true', decide_eq_true_eq]
  refine ⟨⟨hp, hm⟩, fun e he => ?_⟩
  cases hc : (pre.get i).c.ret.contains e.1 with
  | false => exact Or.inl (Or.inl rfl)
  | true =>
    by_cases hne : e.1 = tUnused
    · exact Or.inl (Or.inr hne)
    · right
      intro q hq
      obtain ⟨a, b⟩ := hprov i e q he hq
      exact ⟨a, b hc hne⟩

theorem returnsConsumedB_iff (ch : Chain) : returnsConsumedB ch = true ↔
    ∀ f ∈ ch, f.inc = true → ∀ t ∈ f.c.ret, ¬ t ∈ f.c.consOpt → t ≠ tUnused →
      ∃ g ∈ ch, g.inc = true ∧ g.pos < f.pos ∧ t ∈ g.recvTypes := by
  simp only [returnsConsumedB, List.all_eq_true, Bool.or_eq_true, Bool.not_eq_true', List.any_eq_true, Bool.and_eq_true,
    decide_eq_true_eq, beq_iff_eq, List.contains_eq_mem, Decidable.or_iff_not_imp_left, Bool.not_eq_false, and_assoc,
    Decidable.not_imp_iff_and_not, and_imp]

end Nject
