import NjectProofs.IncludeValidate
/-
  What pruning (include.go:139-192) does to a chain, said once.  A trial `tryWithout ch S` changes, everywhere, only the
  validation flags, `excluded` and `wanted`, outside `S` only the validation flags, and the members of `S` end up excluded
  together or not at all (`Trial`).  `eliminateUnused` is a sequence of drops of `Droppable` providers; a round is a sequence
  of trials of the `trialSet` of a provider proposed at the START of the round.  A property of chains kept by these moves is
  kept by the loops and by `pruneStages` (`pruneStages_induction`).  `clusters` is a fold of `clStep`, which writes the cluster lists
  and `wantedInCluster` only (`ClF`); what no stage writes is in `PruneF`.
-/
namespace Nject

def TrialF (S : List Nat) (j : Nat) (f g : IP) : Prop :=
  { f with inc := g.inc, cannot := g.cannot, excluded := g.excluded, wanted := g.wanted } = g ∧ (j ∉ S → flagsOnly f g)

theorem TrialF.pre (S : List Nat) : Framed.Pre (TrialF S) where
  refl := fun _ _ => ⟨rfl, fun _ => rfl⟩
  trans := fun h1 h2 => ⟨by rw [← h2.1, ← h1.1], fun hj => flagsOnly_trans (h1.2 hj) (h2.2 hj)⟩

theorem FR.trialF {S : List Nat} {a b : Chain} (h : FR a b) : Framed (TrialF S) a b :=
  h.mono fun h => ⟨by unfold flagsOnly at h; rw [← h], fun _ => h⟩

theorem Framed.trialWrite {S : List Nat} (a : Chain) {w : Nat} (hw : w ∈ S) (x : Bool) (y : IP → Bool) :
    Framed (TrialF S) a (a.upd w fun f => { f with excluded := x, wanted := y f }) :=
  Framed.upd (TrialF.pre S) a w ⟨rfl, fun h => absurd hw h⟩

structure Trial (ch : Chain) (S : List Nat) (r : Chain) : Prop where
  frame : Framed (TrialF S) ch r
  excl : (∀ w ∈ S, (ch.get w).excluded = false) → ∃ b : Bool, ∀ j ∈ S, j < ch.length → (r.get j).excluded = b

theorem tryWithout_trial (ch : Chain) (S : List Nat) : Trial ch S (tryWithout ch S) := by
  have pre := TrialF.pre S
  unfold tryWithout
  split
  · next w =>
    have hw : w ∈ [w] := List.mem_singleton_self w
    have f1 : Framed (TrialF [w]) ch (ch.upd w fun f => { f with excluded := true }) := Framed.trialWrite ch hw true (·.wanted)
    by_cases hc : ((ch.get w).wanted && (ch.get w).wantedInCluster) = true
    · rewrite [if_pos hc]
      exact ⟨Framed.refl pre ch, fun h => ⟨false, fun j hj _ => h j hj⟩⟩
    · rewrite [if_neg hc]
      dsimp only
      split
      · next ch2 hv =>
        have fr := validate_FR hv
        refine ⟨f1.trans pre fr.trialF, fun _ => ⟨true, fun j hj hl => ?_⟩⟩
        rewrite [List.mem_singleton.mp hj] at hl ⊢
        rw [fr.proj (·.excluded) (fun _ _ _ => rfl), Chain.get_upd_self ch _ hl]
      · refine ⟨f1.trans pre (Framed.trialWrite _ hw false (·.wanted)), fun _ => ⟨false, fun j hj hl => ?_⟩⟩
        rewrite [List.mem_singleton.mp hj] at hl ⊢
        rw [Chain.get_upd_self _ _ (by rw [Chain.length_upd]; exact hl)]
  · have wr : ∀ (x : Bool) (y : IP → Bool) (c : Chain),
        Framed (TrialF S) c (S.foldl (fun c w => c.upd w fun f => { f with excluded := x, wanted := y f }) c) := fun x y c =>
      Framed.foldl pre _ (· ∈ S) (fun c w hw => Framed.trialWrite c hw x y) S c (fun _ h => h)
    have f1 := wr true (fun f => if f.wantedInCluster then false else f.wanted) ch
    dsimp only
    split
    · next ch2 hv =>
      have fr := validate_FR hv
      refine ⟨(f1.trans pre fr.trialF).trans pre (wr true _ ch2), fun _ => ⟨true, fun j hj hl => ?_⟩⟩
      exact Chain.proj_foldl_upd (·.excluded) S ch2 j hj (by rewrite [fr.1, f1.1]; exact hl) fun _ => rfl
    · refine ⟨f1.trans pre (wr false _ _), fun _ => ⟨false, fun j hj hl => ?_⟩⟩
      exact Chain.proj_foldl_upd (·.excluded) S _ j hj (by rewrite [f1.1]; exact hl) fun _ => rfl

theorem Trial.length {ch r : Chain} {S : List Nat} (t : Trial ch S r) : r.length = ch.length := t.frame.1

theorem Trial.same {ch r : Chain} {S : List Nat} (t : Trial ch S r) (j : Nat) :
    (r.get j).c = (ch.get j).c ∧ (r.get j).clusterMembers = (ch.get j).clusterMembers ∧
    (r.get j).wantedInCluster = (ch.get j).wantedInCluster := by
  have := (t.frame.2 j).1
  rewrite [← this]; exact ⟨rfl, rfl, rfl⟩

theorem Trial.other {ch r : Chain} {S : List Nat} (t : Trial ch S r) {j : Nat} (hj : j ∉ S) :
    (r.get j).excluded = (ch.get j).excluded ∧ (r.get j).wanted = (ch.get j).wanted := by
  have := (t.frame.2 j).2 hj
  exact ⟨this.proj (·.excluded) fun _ _ _ => rfl, this.proj (·.wanted) fun _ _ _ => rfl⟩

def EM : Chain → Chain → Prop := Framed fun _ f g => g.c = f.c ∧ (f.excluded = true → g.excluded = true)

theorem EM_pre : Framed.Pre fun _ f g => g.c = f.c ∧ (f.excluded = true → g.excluded = true) :=
  ⟨fun _ _ => ⟨rfl, id⟩, fun h1 h2 => ⟨h2.1.trans h1.1, fun h => h2.2 (h1.2 h)⟩⟩

theorem EM_refl (ch : Chain) : EM ch ch := Framed.refl EM_pre ch

theorem Trial.EM {ch r : Chain} {S : List Nat} (t : Trial ch S r) (hw : ∀ w ∈ S, (ch.get w).excluded = false) : EM ch r :=
  ⟨t.length, fun j => ⟨(t.same j).1, fun hx => by
    by_cases hj : j ∈ S
    · rewrite [hw j hj] at hx; cases hx
    · rewrite [(t.other hj).1]; exact hx⟩⟩

def Droppable (c : Chain) (i : Nat) : Prop :=
  (c.get i).c.required = false ∧ (c.get i).c.desired = false ∧ (c.get i).wanted = false ∧ (c.get i).inc = true ∧
  (c.get i).excluded = false ∧ (c.get i).c.cluster = 0 ∧ ((c.get i).usedBy.any fun d => (c.get d).inc) = false

theorem eliminateUnused_induction {P : Chain → Prop}
    (h : ∀ c i, P c → Droppable c i → P (c.upd i fun f => { f with inc := false, cannot := true, excluded := true }))
    (fuel : Nat) (check : List Nat) (ch : Chain) (h0 : P ch) : P (eliminateUnused fuel check ch) := by
  fun_induction eliminateUnused fuel check ch with
  | case1 | case2 => exact h0
  | case3 _ _ _ _ _ _ ih | case4 _ _ _ _ _ _ _ ih => exact ih h0
  | case5 _ i _ ch fm hs hu ih =>
    refine ih (h ch i h0 ?_)
    simp only [Bool.or_eq_true, not_or, Bool.not_eq_true, Bool.not_eq_eq_eq_not, Bool.not_true, bne_iff_ne, ne_eq,
      Decidable.not_not] at hs hu
    exact ⟨hs.1.1.1.1.1, hs.1.1.1.1.2, hs.1.1.1.2, Bool.not_eq_false _ ▸ hs.1.1.2, hs.1.2, hs.2, hu⟩

def roundStep (ch : Chain) (i : Nat) : Chain :=
  let fm := ch.get i
  if fm.excluded then ch
  else if fm.c.cluster != 0 then
    match fm.clusterMembers with
    | some ms => tryWithout ch ms
    | none => ch
  else tryWithout ch [i]

theorem proposalRound_eq (ch : Chain) : proposalRound ch = (proposeEliminations ch).foldl roundStep ch := rfl

/-- what a round tries to remove when it comes to the proposed provider `i`: the provider itself, or its whole Cluster -/
def trialSet (c : Chain) (i : Nat) : Option (List Nat) :=
  if (c.get i).excluded then none else if (c.get i).c.cluster != 0 then (c.get i).clusterMembers else some [i]

theorem roundStep_eq (c : Chain) (i : Nat) :
    roundStep c i = match trialSet c i with | some S => tryWithout c S | none => c := by
  unfold roundStep trialSet
  dsimp only
  cases (c.get i).excluded with
  | true => rfl
  | false =>
    cases (c.get i).c.cluster != 0 with
    | true => cases (c.get i).clusterMembers <;> rfl
    | false => rfl

theorem trialSet_some {c : Chain} {i : Nat} {S : List Nat} (h : trialSet c i = some S) :
    (c.get i).excluded = false ∧
    (((c.get i).c.cluster = 0 ∧ S = [i]) ∨ ((c.get i).c.cluster ≠ 0 ∧ (c.get i).clusterMembers = some S)) := by
  unfold trialSet at h
  cases hx : (c.get i).excluded with
  | true => rewrite [hx, if_pos rfl] at h; cases h
  | false =>
    rewrite [hx, if_neg Bool.false_ne_true] at h
    refine ⟨rfl, ?_⟩
    cases hc : (c.get i).c.cluster != 0 with
    | true => rewrite [hc, if_pos rfl] at h; exact Or.inr ⟨bne_iff_ne.mp hc, h⟩
    | false =>
      rewrite [hc, if_neg Bool.false_ne_true] at h
      exact Or.inl ⟨bne_eq_false_iff_eq.mp hc, (Option.some.inj h).symm⟩

theorem proposalRound_induction {P : Chain → Prop} {ch : Chain}
    (h : ∀ c i S, P c → i ∈ proposeEliminations ch → trialSet c i = some S → P (tryWithout c S)) (h0 : P ch) :
    P (proposalRound ch) := by
  rewrite [proposalRound_eq]
  refine List.foldlRecOn (motive := P) _ roundStep h0 fun c hc i hi => ?_
  rewrite [roundStep_eq]
  split
  · next S hS => exact h c i S hc hi hS
  · exact hc

-- `P` at the start of a round may be used for every trial of that round
theorem proposalLoop_induction {P : Chain → Prop}
    (h : ∀ ch c i S, P ch → P c → i ∈ proposeEliminations ch → trialSet c i = some S → P (tryWithout c S))
    (fuel : Nat) (ch : Chain) (h0 : P ch) : P (proposalLoop fuel ch) := by
  fun_induction proposalLoop fuel ch with
  | case1 => exact h0
  | case2 _ ch _ _ => exact proposalRound_induction (fun c i S => h ch c i S h0) h0
  | case3 _ ch _ _ ih => exact ih (proposalRound_induction (fun c i S => h ch c i S h0) h0)

/-- the last write of a step of `clusters`: provider `i`, auto-desired and in a Cluster, is marked so -/
def wicStep (b : Bool) (i : Nat) (c : Chain) : Chain := if b then c.upd i fun f => { f with wantedInCluster := true } else c

theorem wicStep_proj {α} (φ : IP → α) (hφ : ∀ f, φ { f with wantedInCluster := true } = φ f) (b : Bool) (i : Nat) (c : Chain) (j : Nat) :
    φ ((wicStep b i c).get j) = φ (c.get j) := by
  unfold wicStep; split
  · exact Chain.proj_upd' φ hφ c i j
  · rfl

theorem wicStep_get_ne (b : Bool) {i d : Nat} (c : Chain) (h : d ≠ i) : (wicStep b i c).get d = c.get d := by
  unfold wicStep; split
  · exact Chain.get_upd_ne c _ h
  · rfl

def clStep (acc : Chain × List (Nat × Nat)) (i : Nat) : Chain × List (Nat × Nat) :=
  let (ch, leaders) := acc
  let fm := ch.get i
  if fm.c.cluster == 0 || fm.excluded then acc else
  let (ch, leaders) :=
    match leaders.lookup fm.c.cluster with
    | some l => ((ch.upd l fun f => { f with clusterMembers := some ((f.clusterMembers.getD []) ++ [i]) }).upd i
                  (fun f => { f with clusterMembers := none }), leaders)
    | none => (ch.upd i fun f => { f with clusterMembers := some [i] }, leaders ++ [(fm.c.cluster, i)])
  let ch := if !fm.c.required && !fm.c.desired && fm.wanted then ch.upd i fun f => { f with wantedInCluster := true } else ch
  (ch, leaders)

theorem clStep_skip {ch : Chain} {leaders : List (Nat × Nat)} {k : Nat}
    (h : ((ch.get k).c.cluster == 0 || (ch.get k).excluded) = true) : clStep (ch, leaders) k = (ch, leaders) := by
  unfold clStep; simp only []; rw [if_pos h]

theorem clStep_join {ch : Chain} {leaders : List (Nat × Nat)} {k l : Nat}
    (h : ¬ ((ch.get k).c.cluster == 0 || (ch.get k).excluded) = true) (hl : leaders.lookup (ch.get k).c.cluster = some l) :
    clStep (ch, leaders) k =
      (wicStep (!(ch.get k).c.required && !(ch.get k).c.desired && (ch.get k).wanted) k
        ((ch.upd l fun f => { f with clusterMembers := some ((f.clusterMembers.getD []) ++ [k]) }).upd k
          fun f => { f with clusterMembers := none }), leaders) := by
  unfold clStep; simp only []; rewrite [if_neg h, hl]; rfl

theorem clStep_new {ch : Chain} {leaders : List (Nat × Nat)} {k : Nat}
    (h : ¬ ((ch.get k).c.cluster == 0 || (ch.get k).excluded) = true) (hl : leaders.lookup (ch.get k).c.cluster = none) :
    clStep (ch, leaders) k =
      (wicStep (!(ch.get k).c.required && !(ch.get k).c.desired && (ch.get k).wanted) k
        (ch.upd k fun f => { f with clusterMembers := some [k] }), leaders ++ [((ch.get k).c.cluster, k)]) := by
  unfold clStep; simp only []; rewrite [if_neg h, hl]; rfl

theorem clusters_eq (ch : Chain) : clusters ch = ((List.range ch.length).foldl clStep (ch, ([] : List (Nat × Nat)))).1 := rfl

def ClF (f g : IP) : Prop := { f with wantedInCluster := g.wantedInCluster, clusterMembers := g.clusterMembers } = g

theorem ClF.pre : Framed.Pre fun _ => ClF :=
  ⟨fun _ _ => rfl, fun h1 h2 => by unfold ClF at *; rw [← h2, ← h1]⟩

theorem ClF.same {f g : IP} (h : ClF f g) : g.c = f.c ∧ g.excluded = f.excluded := by
  unfold ClF at h; rewrite [← h]; exact ⟨rfl, rfl⟩

theorem ClF.upd (c : Chain) (k : Nat) (x : IP → Option (List Nat)) :
    Framed (fun _ => ClF) c (c.upd k fun f => { f with clusterMembers := x f }) := Framed.upd ClF.pre c k rfl

theorem ClF.wicStep (b : Bool) (i : Nat) (c : Chain) : Framed (fun _ => ClF) c (wicStep b i c) := by
  unfold Nject.wicStep; split
  · exact Framed.upd ClF.pre c i rfl
  · exact Framed.refl ClF.pre c

theorem clStep_framed (acc : Chain × List (Nat × Nat)) (i : Nat) : Framed (fun _ => ClF) acc.1 (clStep acc i).1 := by
  obtain ⟨c, leaders⟩ := acc
  by_cases hs : ((c.get i).c.cluster == 0 || (c.get i).excluded) = true
  · rewrite [clStep_skip hs]; exact Framed.refl ClF.pre c
  · cases hl : leaders.lookup (c.get i).c.cluster with
    | none => rewrite [clStep_new hs hl]; exact (ClF.upd c i fun _ => some [i]).trans ClF.pre (ClF.wicStep _ i _)
    | some l =>
      rewrite [clStep_join hs hl]
      exact ((ClF.upd c l fun f => some ((f.clusterMembers.getD []) ++ [i])).trans ClF.pre (ClF.upd _ i fun _ => none)).trans ClF.pre
        (ClF.wicStep _ i _)

theorem clusters_framed (ch : Chain) : Framed (fun _ => ClF) ch (clusters ch) := by
  rewrite [clusters_eq]
  exact List.foldlRecOn (motive := fun acc => Framed (fun _ => ClF) ch acc.1) _ clStep (b := (ch, [])) (Framed.refl ClF.pre ch)
    fun acc h k _ => h.trans ClF.pre (clStep_framed acc k)

theorem pruneStages_unfold (ch : Chain) :
    pruneStages ch =
      (let a := clusters (ch.map fun f => if f.cannot then { f with excluded := true, inc := false } else f)
       let b := eliminateUnused (a.length + (a.map (·.uses.length)).sum + 8) (List.range a.length) a
       (proposalLoop (a.length + 1) b).map fun f => { f with cannot := f.excluded }) := rfl

theorem pruneStages_induction {P : Chain → Prop} {ch : Chain}
    (h0 : P (clusters (ch.map fun f => if f.cannot then { f with excluded := true, inc := false } else f)))
    (hdrop : ∀ c i, P c → Droppable c i → P (c.upd i fun f => { f with inc := false, cannot := true, excluded := true }))
    (htrial : ∀ c0 c i S, P c0 → P c → i ∈ proposeEliminations c0 → trialSet c i = some S → P (tryWithout c S)) :
    ∃ r, P r ∧ pruneStages ch = r.map fun f => { f with cannot := f.excluded } :=
  ⟨_, proposalLoop_induction htrial _ _ (eliminateUnused_induction hdrop _ _ _ h0), rfl⟩

theorem pruneStages_cannot_eq (ch : Chain) (j : Nat) :
    ((pruneStages ch).get j).cannot = ((pruneStages ch).get j).excluded := by
  rw [pruneStages_unfold, Chain.get_map' _ rfl]

def PruneF (f g : IP) : Prop :=
  { f with inc := g.inc, cannot := g.cannot, excluded := g.excluded, wanted := g.wanted,
           wantedInCluster := g.wantedInCluster, clusterMembers := g.clusterMembers } = g

theorem PruneF.pre : Framed.Pre fun _ => PruneF :=
  ⟨fun _ _ => rfl, fun h1 h2 => by unfold PruneF at *; rw [← h2, ← h1]⟩

theorem pruneStages_framed (ch : Chain) : Framed (fun _ => PruneF) ch (pruneStages ch) := by
  obtain ⟨r, hr, e⟩ := pruneStages_induction (P := Framed (fun _ => PruneF) ch) (ch := ch)
    ((Framed.map PruneF.pre ch fun _ f => by split <;> rfl).trans PruneF.pre
      ((clusters_framed _).mono fun h => by unfold PruneF; unfold ClF at h; rw [← h]))
    (fun c i hc _ => hc.trans PruneF.pre (Framed.upd PruneF.pre c i rfl))
    (fun _ c _ S _ hc _ _ => hc.trans PruneF.pre
      ((tryWithout_trial c S).frame.mono fun h => by unfold PruneF; rw [← h.1]))
  rewrite [e]
  exact hr.trans PruneF.pre (Framed.map PruneF.pre r fun _ _ => rfl)

end Nject
