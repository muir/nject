import NjectProofs.ReorderStep
/-
  The constraint graph `reorder` builds before the sort (reorder.go:100-255).  All that `addProvider` does for
  provider `i`, `fixStep` apart, is a `GStep i`; from that one description follow the invariant `GInv` of the loop
  over the providers (`ReorderRun` reads `SOK` and the chain of strong pairs between consecutive fixed providers off it) and what is
  recorded for a provider's inputs.  `Numbered`: all type nodes, of either table, have distinct numbers between the
  providers and the counter (`NodesOK` is read off it).  `buildNodes`: `before` and `after` are two views of the strong pairs.
-/
namespace Nject

/-- type nodes are numbered apart -/
structure NodesOK (g : RGraph) : Prop where
  dlt : ∀ e ∈ g.downTypes, e.2 < g.counter
  ult : ∀ e ∈ g.upTypes, e.2 < g.counter
  dinj : ∀ e1 ∈ g.downTypes, ∀ e2 ∈ g.downTypes, e1.2 = e2.2 → e1 = e2
  dudisj : ∀ e1 ∈ g.downTypes, ∀ e2 ∈ g.upTypes, e1.2 ≠ e2.2

def Recorded (g : RGraph) (i : Nat) (t : Ty) : Prop :=
  ∃ num, g.downTypes.lookup t = some num ∧ (i, num) ∈ g.strong

/-- every matched input type of provider `i`, whose inputs are `inp`, is recorded -/
def Inputs (ti : TyInfo) (loose : Nat → List Ty) (aDown : IMap) (inp : List Ty) (g : RGraph) (i : Nat) : Prop :=
  ∀ tRaw ∈ noNoType inp, ∀ t deps, bestMatch ti loose aDown tRaw = some (t, deps) → Recorded g i t

/-- The numbering of the type nodes, downward and upward ones together: between the providers `0 … n` and the counter, and
    apart.  A predicate of the three components it speaks of: a step that touches none of them keeps it by computation. -/
structure Numbered (n c : Nat) (down up : List (Ty × Nat)) : Prop where
  counter : n < c
  range : ∀ e ∈ down ++ up, n < e.2 ∧ e.2 < c
  apart : ((down ++ up).map (·.2)).Nodup

/-- reorder.go:176-184, 200-208: a new type node takes the counter as its number -/
theorem Numbered.add {n c : Nat} {down up down' up' : List (Ty × Nat)} {t : Ty} (h : Numbered n c down up)
    (hp : (down' ++ up').Perm ((t, c) :: (down ++ up))) : Numbered n (c + 1) down' up' where
  counter := Nat.lt_succ_of_lt h.counter
  range := fun e he => (List.mem_cons.mp (hp.mem_iff.mp he)).elim (fun e' => by rewrite [e']; exact ⟨h.counter, Nat.lt_succ_self _⟩)
    (fun he => ⟨(h.range e he).1, Nat.lt_succ_of_lt (h.range e he).2⟩)
  apart := (hp.map _).nodup_iff.mpr (List.nodup_cons.mpr ⟨fun hc => by
    obtain ⟨e, he, hec⟩ := List.mem_map.mp hc
    exact absurd (h.range e he).2 (hec ▸ Nat.lt_irrefl _), h.apart⟩)

theorem Numbered.nodesOK {n : Nat} {g : RGraph} (h : Numbered n g.counter g.downTypes g.upTypes) : NodesOK g where
  dlt := fun e he => (h.range e (List.mem_append_left _ he)).2
  ult := fun e he => (h.range e (List.mem_append_right _ he)).2
  dinj := fun e1 h1 e2 h2 => inj_of_nodup_map _ h.apart (List.mem_append_left _ h1) (List.mem_append_left _ h2)
  dudisj := fun e1 h1 e2 h2 => by
    have := h.apart
    rewrite [List.map_append, List.nodup_append] at this
    exact this.2.2 e1.2 (List.mem_map_of_mem h1) e2.2 (List.mem_map_of_mem h2)

/-- what `addProvider` does on behalf of provider `i`, `fixStep` apart -/
structure GStep (i : Nat) (g g' : RGraph) : Prop where
  cr : g'.cannotReorder = g.cannotReorder
  last : g'.lastNoReorder = g.lastNoReorder
  strongMono : ∀ p ∈ g.strong, p ∈ g'.strong
  strongNew : ∀ p ∈ g'.strong, p ∈ g.strong ∨ p.1 = i
  downPre : g.downTypes <+: g'.downTypes
  num : ∀ n, Numbered n g.counter g.downTypes g.upTypes → Numbered n g'.counter g'.downTypes g'.upTypes

theorem GStep.refl (i : Nat) (g : RGraph) : GStep i g g :=
  ⟨rfl, rfl, fun _ h => h, fun _ h => Or.inl h, List.prefix_refl _, fun _ h => h⟩

theorem GStep.trans {i : Nat} {a b c : RGraph} (h1 : GStep i a b) (h2 : GStep i b c) : GStep i a c where
  cr := h2.cr.trans h1.cr
  last := h2.last.trans h1.last
  strongMono := fun p hp => h2.strongMono p (h1.strongMono p hp)
  strongNew := fun p hp => (h2.strongNew p hp).elim (h1.strongNew p) Or.inr
  downPre := h1.downPre.trans h2.downPre
  num := fun n h => h2.num n (h1.num n h)

theorem GStep.ite {i : Nat} {g a b : RGraph} {c : Prop} [Decidable c] (ha : GStep i g a) (hb : GStep i g b) :
    GStep i g (if c then a else b) := by
  split
  · exact ha
  · exact hb

theorem GStep.recorded {i j : Nat} {g g' : RGraph} {t : Ty} (h : GStep i g g') (r : Recorded g j t) : Recorded g' j t :=
  r.imp fun _ hn => ⟨h.downPre.lookup_eq_some hn.1, h.strongMono _ hn.2⟩

theorem GStep.inputs {i j : Nat} {g g' : RGraph} {ti loose aDown inp} (h : GStep i g g') (r : Inputs ti loose aDown inp g j) :
    Inputs ti loose aDown inp g' j :=
  fun tRaw ht t deps hm => h.recorded (r tRaw ht t deps hm)

theorem foldl_gstep {α} (i : Nat) (f : RGraph → α → RGraph) (hf : ∀ g a, GStep i g (f g a))
    (l : List α) (g : RGraph) : GStep i g (l.foldl f g) :=
  List.foldlRecOn (motive := GStep i g) l f (GStep.refl i g) fun _ hb a _ => hb.trans (hf _ a)

/-- a fold of steps that each establish `Q a` for their own `a`, which later steps keep -/
theorem foldl_gstep_rec {α} (i : Nat) (f : RGraph → α → RGraph) (Q : α → RGraph → Prop)
    (hf : ∀ g a, GStep i g (f g a) ∧ Q a (f g a)) (hQ : ∀ a g g', GStep i g g' → Q a g → Q a g')
    (l : List α) (g : RGraph) : GStep i g (l.foldl f g) ∧ ∀ a ∈ l, Q a (l.foldl f g) := by
  induction l generalizing g with
  | nil => exact ⟨GStep.refl i g, List.forall_mem_nil _⟩
  | cons a l ih =>
    obtain ⟨sl, rl⟩ := ih (f g a)
    exact ⟨(hf g a).1.trans sl, fun b hb => (List.mem_cons.mp hb).elim (fun e => e ▸ hQ a _ _ sl (hf g a).2) (rl b)⟩

theorem after_gstep (i i' : Nat) (g : RGraph) (b : Bool) (j : Option Nat) (hb : b = true → i' = i) : GStep i g (g.after b i' j) := by
  unfold RGraph.after
  cases j with
  | none => exact GStep.refl i g
  | some j =>
    cases b with
    | false =>
      show GStep i g { g with weak := g.weak ++ [(i', j)] }
      exact ⟨rfl, rfl, fun _ h => h, fun _ h => Or.inl h, List.prefix_refl _, fun _ h => h⟩
    | true =>
      show GStep i g { g with strong := g.strong ++ [(i', j)] }
      refine ⟨rfl, rfl, fun p h => List.mem_append_left _ h, fun p hp => ?_, List.prefix_refl _, fun _ h => h⟩
      rcases List.mem_append.mp hp with hp | hp
      · exact Or.inl hp
      · rewrite [List.mem_singleton.mp hp]; exact Or.inr (hb rfl)

theorem after_tables (g : RGraph) (b : Bool) (i : Nat) (j : Option Nat) :
    (g.after b i j).downTypes = g.downTypes ∧ (g.after b i j).upTypes = g.upTypes ∧ (g.after b i j).counter = g.counter := by
  unfold RGraph.after
  cases j <;> cases b <;> exact ⟨rfl, rfl, rfl⟩

theorem after_strong_mem (g : RGraph) (i j : Nat) : (i, j) ∈ (g.after true i (some j)).strong :=
  List.mem_append_right _ (List.mem_singleton.mpr rfl)

theorem downType_gstep (funcs : List CP) (i : Nat) (t : Ty) (g : RGraph) :
    GStep i g (g.downType funcs i t) ∧ Recorded (g.downType funcs i t) i t := by
  unfold RGraph.downType
  have tail := foldl_gstep i (fun g j => g.after false i (some j)) (fun g j => after_gstep i i g false (some j) nofun) (provByNotReq funcs t)
  cases hl : g.downTypes.lookup t with
  | some num =>
    have h := after_gstep i i g true (some num) (fun _ => rfl)
    exact ⟨h.trans (tail _), (tail _).recorded ⟨num, (after_tables g true i (some num)).1 ▸ hl, after_strong_mem g i num⟩⟩
  | none =>
    have ha := after_gstep i i g true (some g.counter) (fun _ => rfl)
    refine ⟨GStep.trans ?_ (tail _), (tail _).recorded ⟨g.counter, ?_, after_strong_mem g i g.counter⟩⟩
    · exact ⟨ha.cr, ha.last, ha.strongMono, ha.strongNew, List.prefix_append _ _, fun n h =>
        h.add (t := t) (by rewrite [List.append_assoc]; exact List.perm_middle)⟩
    · rewrite [List.lookup_append, hl, List.lookup_cons, beq_iff_eq.mpr rfl]; rfl

theorem upType_gstep (funcs : List CP) (i : Nat) (t : Ty) (co : Bool) (g : RGraph) : GStep i g (g.upType funcs i t co) := by
  unfold RGraph.upType
  refine GStep.trans ?_ (foldl_gstep i _ (fun g j => after_gstep i i g false (some j) nofun) _ _)
  cases g.upTypes.lookup t with
  | some num => exact after_gstep i i g (!co) (some num) (fun _ => rfl)
  | none =>
    have ha := after_gstep i i g (!co) (some g.counter) (fun _ => rfl)
    have hd := (after_tables g (!co) i (some g.counter)).1
    exact ⟨ha.cr, ha.last, ha.strongMono, ha.strongNew, hd ▸ List.prefix_refl _, fun n h => by
      show Numbered n (g.counter + 1) (g.after (!co) i (some g.counter)).downTypes (g.upTypes ++ [(t, g.counter)])
      rewrite [hd]; exact h.add (t := t) (by rewrite [← List.append_assoc]; exact List.perm_append_singleton _ _)⟩

/-- reorder.go:163-168 -/
def fixStep (reorder : Bool) (i : Nat) (g : RGraph) : RGraph :=
  if !reorder then { (g.after true i g.lastNoReorder) with cannotReorder := g.cannotReorder ++ [i], lastNoReorder := some i } else g

theorem fixStep_inputs {r : Bool} {i j : Nat} {g : RGraph} {ti loose aDown inp} (h : Inputs ti loose aDown inp g j) :
    Inputs ti loose aDown inp (fixStep r i g) j := by
  unfold fixStep
  split
  · exact (after_gstep i i g true g.lastNoReorder (fun _ => rfl)).inputs h
  · exact h

theorem addProvider_spec (ti : TyInfo) (funcs : List CP) (aDown aUp : IMap) (lastStatic finalFunc : Option Nat) (g : RGraph) (i : Nat) (fm : CP) :
    ∃ g2, GStep i g g2 ∧ GStep i (fixStep fm.reorder i g2) (g.addProvider ti funcs aDown aUp lastStatic finalFunc i fm) ∧
      Inputs ti (fun p => (funcs.getD p default).loose) aDown fm.inp (g.addProvider ti funcs aDown aUp lastStatic finalFunc i fm) i := by
  -- the graphs between the steps of `addProvider` are read off its definition; last, the loop over the return types
  have sRet : GStep i _ (g.addProvider ti funcs aDown aUp lastStatic finalFunc i fm) :=
    foldl_gstep i _ (fun g tRaw => by
      generalize bestMatch _ _ _ tRaw = r
      cases r with
      | none => exact GStep.refl i g
      | some r => exact upType_gstep funcs i r.1 _ g) _ _
  -- the two `after` steps, then the loop over the inputs: what an input's step records, the later steps keep
  refine ⟨_, (GStep.ite (after_gstep i i g true lastStatic (fun _ => rfl)) (GStep.refl i g)).trans (GStep.ite ?_ (GStep.refl i _)),
    (foldl_gstep_rec i _
      (fun tRaw g => ∀ t deps, bestMatch ti (fun p => (funcs.getD p default).loose) aDown tRaw = some (t, deps) → Recorded g i t)
      (fun g tRaw => ?_) (fun _ _ _ h r t deps hm => h.recorded (r t deps hm)) (noNoType fm.inp) (fixStep fm.reorder i _)).elim
    fun sIn rIn => ⟨sIn.trans sRet, sRet.inputs rIn⟩⟩
  · cases finalFunc with
    | none => exact GStep.refl i _
    | some ff => exact after_gstep i ff _ false (some i) nofun
  · cases bestMatch ti (fun p => (funcs.getD p default).loose) aDown tRaw with
    | none => exact ⟨GStep.refl i g, nofun⟩
    | some r => exact ⟨(downType_gstep funcs i r.1 g).1, fun t deps h => by cases h; exact (downType_gstep funcs i t g).2⟩

/-- the invariant of the loop over providers in `buildGraph`, after the first `p` of them -/
structure GInv (n : Nat) (nr : Nat → Bool) (g : RGraph) (p : Nat) : Prop where
  cr : g.cannotReorder = (List.range p).filter nr
  last : g.lastNoReorder = g.cannotReorder.getLast?
  strongLt : ∀ pr ∈ g.strong, pr.1 < n
  chain : ∀ j a b, g.cannotReorder[j]? = some a → g.cannotReorder[j + 1]? = some b → (b, a) ∈ g.strong
  num : Numbered n g.counter g.downTypes g.upTypes

theorem GInv.step {n nr g p i g'} (h : GInv n nr g p) (hi : i < n) (hs : GStep i g g') : GInv n nr g' p where
  cr := by rewrite [hs.cr]; exact h.cr
  last := by rewrite [hs.last, hs.cr]; exact h.last
  strongLt := fun pr hp => (hs.strongNew pr hp).elim (h.strongLt pr) (fun e => e ▸ hi)
  chain := by rewrite [hs.cr]; exact fun j a b ha hb => hs.strongMono _ (h.chain j a b ha hb)
  num := hs.num n h.num

theorem GInv.fixStep {n nr g p} (h : GInv n nr g p) (hp : p < n) (r : Bool) (hr : nr p = !r) : GInv n nr (fixStep r p g) (p + 1) := by
  cases r with
  | true =>
    show GInv n nr g (p + 1)
    exact { h with cr := by rewrite [h.cr, List.range_succ, List.filter_append]; simp [hr] }
  | false =>
    show GInv n nr { (g.after true p g.lastNoReorder) with cannotReorder := g.cannotReorder ++ [p], lastNoReorder := some p } (p + 1)
    have sa := after_gstep p p g true g.lastNoReorder (fun _ => rfl)
    have ia := h.step hp sa
    refine { strongLt := ia.strongLt, num := ia.num, cr := ?_, last := ?_, chain := ?_ }
    · show g.cannotReorder ++ [p] = _
      rewrite [h.cr, List.range_succ, List.filter_append]; simp [hr]
    · show some p = (g.cannotReorder ++ [p]).getLast?
      rewrite [List.getLast?_append, List.getLast?_singleton]; rfl
    · intro j a b ha hb
      show (b, a) ∈ (g.after true p g.lastNoReorder).strong
      rcases getElem?_concat.mp hb with hb' | ⟨heq, rfl⟩
      · rewrite [List.getElem?_append_left (Nat.lt_of_succ_lt (List.getElem?_eq_some_iff.mp hb').1)] at ha
        exact sa.strongMono _ (h.chain j a b ha hb')
      · -- the new strong pair is the next link of the chain
        rewrite [List.getElem?_append_left (Nat.lt_of_lt_of_eq (Nat.lt_succ_self j) heq)] at ha
        rewrite [h.last, List.getLast?_eq_getElem?, ← heq, Nat.add_sub_cancel, ha]; exact after_strong_mem g b a

theorem buildGraph_spec (ti : TyInfo) (funcs : List CP) (hasInit : Bool) :
    GInv funcs.length (fun i => !(funcs.getD i default).reorder) (buildGraph ti funcs hasInit) funcs.length ∧
    ∀ i, i < funcs.length → Inputs ti (fun p => (funcs.getD p default).loose) (availDown funcs hasInit) (funcs.getD i default).inp
      (buildGraph ti funcs hasInit) i := by
  unfold buildGraph
  dsimp only
  refine foldl_range_induction (fun p g => GInv funcs.length _ g p ∧ ∀ i, i < p → Inputs ti _ _ (funcs.getD i default).inp g i) _ _
    (fun p g hp ⟨gi, rec⟩ => ?_) _ ⟨?_, fun i hi => absurd hi (Nat.not_lt_zero i)⟩
  · exact { cr := rfl, last := rfl, strongLt := List.forall_mem_nil _, chain := fun j a b ha _ => (by cases ha),
            num := ⟨Nat.lt_succ_self _, List.forall_mem_nil _, List.nodup_nil⟩ }
  · obtain ⟨g2, s1, s2, r⟩ := addProvider_spec ti funcs (availDown funcs hasInit) (availUp funcs) _ _ g p (funcs.getD p default)
    refine ⟨(((gi.step hp s1).fixStep hp _ rfl).step hp s2), fun i hi => ?_⟩
    rcases Nat.lt_or_ge i p with hlt | hge
    · exact s2.inputs (fixStep_inputs (s1.inputs (rec i hlt)))
    · rewrite [Nat.le_antisymm (Nat.le_of_lt_succ hi) hge]; exact r

/-- **what `buildGraph` records for the inputs of every provider** -/
theorem buildGraph_inputs (ti : TyInfo) (funcs : List CP) (hasInit : Bool) :
    NodesOK (buildGraph ti funcs hasInit) ∧
    ∀ i, i < funcs.length → ∀ tRaw ∈ noNoType (funcs.getD i default).inp, ∀ t deps,
      bestMatch ti (fun p => (funcs.getD p default).loose) (availDown funcs hasInit) tRaw = some (t, deps) →
      ∃ num, (buildGraph ti funcs hasInit).downTypes.lookup t = some num ∧ (i, num) ∈ (buildGraph ti funcs hasInit).strong :=
  ⟨(buildGraph_spec ti funcs hasInit).1.num.nodesOK, (buildGraph_spec ti funcs hasInit).2⟩

theorem mem_get_set_setIns (m : NMap) (k v i j : Nat) :
    j ∈ (m.set k (setIns (m.get k) v)).get i ↔ j ∈ m.get i ∨ (i = k ∧ j = v) := by
  rewrite [NMap.get_set]
  by_cases h : i = k
  · subst h; rewrite [if_pos rfl, mem_setIns]; exact or_congr_right ⟨fun e => ⟨rfl, e⟩, fun e => e.2⟩
  · rewrite [if_neg h]; exact ⟨Or.inl, fun e => e.resolve_right (fun e => h e.1)⟩

theorem length_get_set_setIns (m : NMap) (k v i : Nat) : ((m.set k (setIns (m.get k) v)).get i).length ≤ (m.get i).length + 1 := by
  rewrite [NMap.get_set]
  by_cases h : i = k
  · subst h; rewrite [if_pos rfl]; unfold setIns; split
    · exact Nat.le_succ _
    · rewrite [List.length_append]; exact Nat.le_refl _
  · rewrite [if_neg h]; exact Nat.le_succ _

/-- reorder.go:236-240, the loop over the strong pairs: a fold of steps that each enter their own pair -/
theorem strongFold_spec (f : Nodes → Nat × Nat → Nodes)
    (ha : ∀ ns p i j, j ∈ (f ns p).after.get i ↔ j ∈ ns.after.get i ∨ (i = p.1 ∧ j = p.2))
    (hb : ∀ ns p j i, i ∈ (f ns p).before.get j ↔ i ∈ ns.before.get j ∨ (j = p.2 ∧ i = p.1))
    (hl : ∀ ns p k, ((f ns p).before.get k).length ≤ (ns.before.get k).length + 1) (l : List (Nat × Nat)) :
    (∀ i j, j ∈ (l.foldl f {}).after.get i ↔ (i, j) ∈ l) ∧ (∀ i j, i ∈ (l.foldl f {}).before.get j ↔ (i, j) ∈ l) ∧
    ∀ k, ((l.foldl f {}).before.get k).length ≤ l.length := by
  induction l using snoc_induction with
  | h0 => exact ⟨fun _ _ => iff_of_false List.not_mem_nil List.not_mem_nil, fun _ _ => iff_of_false List.not_mem_nil List.not_mem_nil,
      fun _ => Nat.le_refl _⟩
  | hs l q ih =>
    obtain ⟨r1, r2, r3⟩ := ih
    have pair : ∀ i j : Nat, (i, j) ∈ l ++ [q] ↔ (i, j) ∈ l ∨ (i = q.1 ∧ j = q.2) := fun i j => by
      rw [List.mem_append, List.mem_singleton, Prod.ext_iff]
    rewrite [List.foldl_append, List.foldl_cons, List.foldl_nil]
    refine ⟨fun i j => ?_, fun i j => ?_, fun k => ?_⟩
    · rw [ha, r1, pair]
    · rw [hb, r2, pair, and_comm]
    · rewrite [List.length_append]
      exact Nat.le_trans (hl _ q k) (Nat.add_le_add_right (r3 k) _)

theorem buildNodes_dual (g : RGraph) :
    (∀ i j, j ∈ (buildNodes g).after.get i ↔ (i, j) ∈ g.strong) ∧ (∀ i j, i ∈ (buildNodes g).before.get j ↔ (i, j) ∈ g.strong) ∧
    ∀ k, ((buildNodes g).before.get k).length ≤ g.strong.length := by
  -- the two loops over the weak pairs touch neither `before` nor `after`
  let π : Nodes → NMap × NMap := fun ns => (ns.before, ns.after)
  have e : π (buildNodes g) = _ :=
    (foldl_keeps π _ (fun ns a => by cases !(ns.weakBefore.get a.1).contains a.2 <;> rfl) _ _).trans (foldl_keeps π _ (fun _ _ => by rfl) _ _)
  rewrite [show (buildNodes g).after = _ from congrArg Prod.snd e, show (buildNodes g).before = _ from congrArg Prod.fst e]
  refine strongFold_spec _ ?_ ?_ ?_ g.strong
  · exact fun ns p => mem_get_set_setIns ns.after p.1 p.2
  · exact fun ns p => mem_get_set_setIns ns.before p.2 p.1
  · exact fun ns p => length_get_set_setIns ns.before p.2 p.1

end Nject
