import Nject.Helpers
/-
  Behind C20.  Curry: one invariant of the walk over the original parameters (`CInv`) and what it gives at the end
  (`CurryOK`).  Struct builder: one functional induction over `FFields.inputs` relates it to the contract `Fills` and
  shows that no two writes overlap: a field's own inputs lie at or below its path, the later fields' elsewhere.
-/
namespace Nject

/-- `for i, v := range vals { m[targets[i]] = f v }`: `mkPassMap` with `f = id`, `curriedCall` and `saveToCall` with
    `f = some` -/
def setAll {α β} (f : β → α) (m : List α) (tv : List (Nat × β)) : List α := tv.foldl (fun m p => m.set p.1 (f p.2)) m

@[simp] theorem setAll_length {α β} (f : β → α) (tv : List (Nat × β)) (m : List α) : (setAll f m tv).length = m.length := by
  induction tv generalizing m with
  | nil => rfl
  | cons x xs ih => exact (ih _).trans List.length_set

theorem setAll_untouched {α β} (f : β → α) (tv : List (Nat × β)) (m : List α) (i : Nat)
    (h : i ∉ tv.map Prod.fst) : (setAll f m tv)[i]? = m[i]? := by
  induction tv generalizing m with
  | nil => rfl
  | cons x xs ih =>
    simp only [List.map_cons, List.mem_cons, not_or] at h
    show (setAll f (m.set x.1 (f x.2)) xs)[i]? = _
    rw [ih _ h.2, List.getElem?_set_ne (Ne.symm h.1)]

theorem setAll_hit {α β} (f : β → α) (tv : List (Nat × β)) (m : List α) (i : Nat) (v : β)
    (hnd : (tv.map Prod.fst).Nodup) (hmem : (i, v) ∈ tv) (hi : i < m.length) :
    (setAll f m tv)[i]? = some (f v) := by
  induction tv generalizing m with
  | nil => cases hmem
  | cons x xs ih =>
    simp only [List.map_cons, List.nodup_cons] at hnd
    show (setAll f (m.set x.1 (f x.2)) xs)[i]? = _
    rcases List.mem_cons.mp hmem with h | h
    · subst h
      rewrite [setAll_untouched _ _ _ _ hnd.1]
      simp [hi]
    · exact ih _ hnd.2 h (by simpa using hi)

theorem setAll_perm (tv : List (Nat × Nat)) (m : List Nat) (h : (tv.map Prod.fst).Perm (List.range m.length)) :
    (setAll id m tv).Perm (tv.map Prod.snd) := by
  have hnd : (tv.map Prod.fst).Nodup := h.nodup_iff.mpr List.nodup_range
  -- the result read position by position is `tv` sorted by position
  have hval : ∀ p ∈ tv, p.2 = (setAll id m tv).getD p.1 0 := fun p hp => by
    have hlt : p.1 < m.length := List.mem_range.mp (h.subset (List.mem_map_of_mem hp))
    rewrite [List.getD_eq_getElem?_getD, setAll_hit id tv m p.1 p.2 hnd hp hlt]; rfl
  have e1 : tv.map Prod.snd = (tv.map Prod.fst).map fun j => (setAll id m tv).getD j 0 := by
    rewrite [List.map_map]; exact List.map_congr_left hval
  have e2 : (List.range m.length).map (fun j => (setAll id m tv).getD j 0) = setAll id m tv := by
    refine List.ext_getElem (by rw [List.length_map, List.length_range, setAll_length]) fun j h1 h2 => ?_
    rewrite [List.getElem_map, List.getElem_range, List.getD_eq_getElem?_getD, List.getElem?_eq_getElem h2]; rfl
  rewrite [e1]
  exact (e2 ▸ h.map _).symm

theorem setAll_append {α β} (f : β → α) (m : List α) (a b : List (Nat × β)) :
    setAll f (setAll f m a) b = setAll f m (a ++ b) := (List.foldl_append ..).symm

theorem positionsOf_nodup (n : List Ty) (t : Ty) : (positionsOf n t).Nodup := by
  unfold positionsOf
  exact List.Nodup.sublist List.filter_sublist List.nodup_range

theorem mem_positionsOf {n : List Ty} {t : Ty} {j : Nat} : j ∈ positionsOf n t ↔ n[j]? = some t := by
  unfold positionsOf
  simp only [List.mem_filter, List.mem_range, beq_iff_eq]
  constructor
  · exact fun h => h.2
  · intro h
    refine ⟨?_, h⟩
    exact (List.getElem?_eq_some_iff.mp h).1

theorem positionsOf_getD {n : List Ty} {t : Ty} {u : Nat} (h : u < (positionsOf n t).length) :
    n[(positionsOf n t).getD u 0]? = some t := by
  rewrite [List.getD_eq_getElem?_getD, List.getElem?_eq_getElem h]
  exact mem_positionsOf.mp (List.getElem_mem h)

structure CInv (n o : List Ty) (i : Nat) (s : CW) : Prop where
  used_le : ∀ t, s.used t ≤ (positionsOf n t).length
  pass_ok : ∀ j k, (j, k) ∈ s.pass → k < i ∧ ∃ t u, o[k]? = some t ∧ u < s.used t ∧ (positionsOf n t).getD u 0 = j
  pass_cov : ∀ t u, u < s.used t → ∃ k, ((positionsOf n t).getD u 0, k) ∈ s.pass
  fst_nodup : (s.pass.map Prod.fst).Nodup
  perm : (s.pass.map Prod.snd ++ s.cm).Perm (List.range i)
  cm_lt : ∀ k ∈ s.cm, k < i
  cur_eq : s.cur = s.cm.map (fun k => o.getD k 0)
  cur_nodup : s.cur.Nodup
  cur_notin : ∀ t ∈ s.cur, positionsOf n t = []

theorem CInv.init (n o : List Ty) : CInv n o 0 {} :=
  ⟨fun _ => Nat.zero_le _, nofun, nofun, .nil, .refl _, nofun, rfl, .nil, nofun⟩

theorem curryStep_inv (n o : List Ty) (i : Nat) (t : Ty) (s s' : CW)
    (ht : o[i]? = some t) (h : curryStep n s i t = some s') (inv : CInv n o i s) : CInv n o (i + 1) s' := by
  revert h
  -- in the order of `curryStep`: 1–2 a type the curried function does not take (seen before / new), 3–4 one it takes
  -- (a position is left / none is)
  fun_cases curryStep n s i t with
  | case1 | case4 => nofun
  | case2 plist hemp hnot =>
    -- parameter `i` is injected from the chain: `cm` and `cur` grow
    intro h; cases h
    have hemp : positionsOf n t = [] := List.isEmpty_iff.mp hemp
    have hnot : t ∉ s.cur := fun hm => hnot (List.contains_iff_mem.mpr hm)
    refine ⟨inv.used_le, fun j k hm => ?_, inv.pass_cov, inv.fst_nodup, ?_, fun k hk => ?_, ?_, ?_, fun x hx => ?_⟩
    · obtain ⟨hk, r⟩ := inv.pass_ok j k hm
      exact ⟨Nat.lt_succ_of_lt hk, r⟩
    · show (s.pass.map Prod.snd ++ (s.cm ++ [i])).Perm _
      rewrite [← List.append_assoc, List.range_succ]
      exact List.Perm.append_right _ inv.perm
    · rcases List.mem_append.mp hk with hk | hk
      · exact Nat.lt_succ_of_lt (inv.cm_lt k hk)
      · rewrite [List.mem_singleton.mp hk]; exact Nat.lt_succ_self _
    · show s.cur ++ [t] = (s.cm ++ [i]).map _
      rewrite [List.map_append, ← inv.cur_eq, List.map_singleton, List.getD_eq_getElem?_getD, ht]; rfl
    · exact List.nodup_append.mpr ⟨inv.cur_nodup, List.pairwise_singleton _ _,
        fun a ha b hb hab => hnot ((hab.trans (List.mem_singleton.mp hb)) ▸ ha)⟩
    · rcases List.mem_append.mp hx with hx | hx
      · exact inv.cur_notin x hx
      · rewrite [List.mem_singleton.mp hx]; exact hemp
  | case3 plist _ hlt =>
    -- parameter `i` is passed on at the next free position of its type: `used t` and `pass` grow
    intro h; cases h
    refine ⟨fun x => ?_, fun j k hm => ?_, fun t' u hu => ?_, ?_, ?_, fun k hk => Nat.lt_succ_of_lt (inv.cm_lt k hk),
      inv.cur_eq, inv.cur_nodup, inv.cur_notin⟩
    · -- `if_pos`/`if_neg` evaluate the new `used` at `x`
      by_cases hx : x = t
      · subst hx; exact Nat.le_trans (Nat.le_of_eq (if_pos rfl)) hlt
      · exact Nat.le_trans (Nat.le_of_eq (if_neg hx)) (inv.used_le x)
    · rcases List.mem_append.mp hm with hm | hm
      · obtain ⟨hk, t', u, h1, h2, h3⟩ := inv.pass_ok j k hm
        refine ⟨Nat.lt_succ_of_lt hk, t', u, h1, ?_, h3⟩
        by_cases hx : t' = t
        · exact Nat.lt_of_lt_of_eq (Nat.lt_succ_of_lt h2) (if_pos hx).symm
        · exact Nat.lt_of_lt_of_eq h2 (if_neg hx).symm
      · obtain ⟨hj, hk⟩ := Prod.mk.inj (List.mem_singleton.mp hm)
        exact ⟨hk ▸ Nat.lt_succ_self _, t, s.used t, hk ▸ ht, Nat.lt_of_lt_of_eq (Nat.lt_succ_self _) (if_pos rfl).symm,
          hj.symm⟩
    · by_cases hx : t' = t
      · have hu : u < s.used t' + 1 := Nat.lt_of_lt_of_eq hu (if_pos hx)
        by_cases hu' : u < s.used t'
        · obtain ⟨k, hk⟩ := inv.pass_cov t' u hu'
          exact ⟨k, List.mem_append_left _ hk⟩
        · have hue : u = s.used t' := Nat.le_antisymm (Nat.le_of_lt_succ hu) (Nat.le_of_not_lt hu')
          exact ⟨i, List.mem_append_right _ (by rewrite [hue, hx]; exact List.mem_singleton_self _)⟩
      · obtain ⟨k, hk⟩ := inv.pass_cov t' u (Nat.lt_of_lt_of_eq hu (if_neg hx))
        exact ⟨k, List.mem_append_left _ hk⟩
    · show ((s.pass ++ [((positionsOf n t).getD (s.used t) 0, i)]).map Prod.fst).Nodup
      simp only [List.map_append, List.map_singleton]
      refine List.nodup_append.mpr ⟨inv.fst_nodup, List.pairwise_singleton _ _, fun a ha b hb hab => ?_⟩
      rewrite [List.mem_singleton.mp hb] at hab
      obtain ⟨⟨j', k⟩, hm, hj'⟩ := List.mem_map.mp ha
      obtain ⟨_, t', u, _, h2, h3⟩ := inv.pass_ok _ k hm
      -- the position belongs to type t' and to type t, so these are one type; and within the positions of one
      -- type, index `u < used t` and index `used t` give different positions
      have hu : u < (positionsOf n t').length := Nat.lt_of_lt_of_le h2 (inv.used_le t')
      have e1 : n[j']? = some t' := h3 ▸ positionsOf_getD hu
      have e2 : n[j']? = some t := by rewrite [show j' = a from hj', hab]; exact positionsOf_getD hlt
      have htt : t' = t := Option.some.inj (e1.symm.trans e2)
      subst htt
      have := (List.getD_inj (fallback := 0) hu hlt (positionsOf_nodup n t')).mp (by rewrite [h3]; exact hj'.trans hab)
      exact absurd (this ▸ h2) (Nat.lt_irrefl _)
    · show ((s.pass ++ [((positionsOf n t).getD (s.used t) 0, i)]).map Prod.snd ++ s.cm).Perm _
      rewrite [List.map_append, List.map_singleton, List.range_succ, List.append_assoc]
      refine (List.Perm.append_left _ List.perm_append_comm).trans ?_
      rewrite [← List.append_assoc]
      exact List.Perm.append_right _ inv.perm

theorem curryWalk_inv (n o : List Ty) (rest : List Ty) (i : Nat) (s s' : CW)
    (hi : i ≤ o.length) (hd : o.drop i = rest) (h : curryWalk n rest i s = some s') (inv : CInv n o i s) :
    CInv n o o.length s' := by
  fun_induction curryWalk n rest i s with
  | case1 i s =>
    cases h
    cases Nat.le_antisymm hi (List.drop_eq_nil_iff.mp hd)
    exact inv
  | case2 t rest i s hs1 => cases h
  | case3 t rest i s s1 hs1 ih =>
    have ht : o[i]? = some t := by rewrite [← Nat.add_zero i, ← List.getElem?_drop, hd]; rfl
    exact ih (List.getElem?_eq_some_iff.mp ht).1 (by rewrite [← List.drop_drop, hd]; rfl) h
      (curryStep_inv n o i t s s1 ht hs1 inv)

theorem mkPassMap_length (len : Nat) (pass : List (Nat × Nat)) : (mkPassMap len pass).length = len := by
  show (setAll id _ pass).length = len
  simp

theorem mkPassMap_get (len : Nat) (pass : List (Nat × Nat)) (j k : Nat)
    (hnd : (pass.map Prod.fst).Nodup) (hmem : (j, k) ∈ pass) (hj : j < len) :
    (mkPassMap len pass)[j]? = some k :=
  setAll_hit id pass _ j k hnd hmem (by simpa using hj)

structure CurryOK (o n : List Ty) (m : CurryMaps) (s : CW) : Prop where
  inv : CInv n o o.length s
  full : ∀ t ∈ n, (positionsOf n t).length ≤ s.used t
  maps : m = { passMap := mkPassMap n.length s.pass, curryMap := s.cm, curried := s.cur }
  fewer : n.length < o.length

theorem curryModel_ok {isFunc : Ty → Bool} {o oo n no : List Ty} {m : CurryMaps}
    (h : curryModel isFunc o oo n no = some m) : oo = no ∧ ∃ s, CurryOK o n m s := by
  revert h
  fun_cases curryModel isFunc o oo n no with
  | case1 | case2 | case3 | case4 | case5 => nofun
  | case6 c1 c2 s hs c3 c4 =>
    intro h; cases h
    refine ⟨Decidable.of_not_not c1, s, curryWalk_inv n o o 0 {} s (Nat.zero_le _) rfl hs (CInv.init n o), fun t ht => ?_, rfl,
      Nat.lt_of_not_le c2⟩
    exact Nat.le_of_not_lt fun hlt => c3 (List.any_eq_true.mpr ⟨t, ht, decide_eq_true hlt⟩)

theorem CurryOK.total {o n m s} (ok : CurryOK o n m s) (j : Nat) (hj : j < n.length) :
    ∃ k, (j, k) ∈ s.pass := by
  have hm : j ∈ positionsOf n n[j] := mem_positionsOf.mpr (List.getElem?_eq_getElem hj)
  obtain ⟨u, hu, hju⟩ := List.mem_iff_getElem.mp hm
  have hfull := ok.full n[j] (List.getElem_mem hj)
  obtain ⟨k, hk⟩ := ok.inv.pass_cov n[j] u (Nat.lt_of_lt_of_le hu hfull)
  refine ⟨k, ?_⟩
  have : (positionsOf n n[j]).getD u 0 = j := by
    rewrite [List.getD_eq_getElem?_getD, List.getElem?_eq_getElem hu]; simpa using hju
  rewrite [this] at hk; exact hk

theorem CurryOK.fst_lt {o n m s} (ok : CurryOK o n m s) (j k : Nat) (h : (j, k) ∈ s.pass) :
    j < n.length ∧ ∃ t, o[k]? = some t ∧ n[j]? = some t := by
  obtain ⟨_, t, u, h1, h2, h3⟩ := ok.inv.pass_ok j k h
  have hu : u < (positionsOf n t).length := Nat.lt_of_lt_of_le h2 (ok.inv.used_le t)
  have e : n[j]? = some t := h3 ▸ positionsOf_getD hu
  exact ⟨(List.getElem?_eq_some_iff.mp e).1, t, h1, e⟩

theorem CurryOK.passMap_get {o n m s} (ok : CurryOK o n m s) (j k : Nat) (h : (j, k) ∈ s.pass) :
    m.passMap[j]? = some k := by
  rewrite [ok.maps]
  exact mkPassMap_get _ _ j k ok.inv.fst_nodup h (ok.fst_lt j k h).1

theorem CurryOK.passMap_length {o n m s} (ok : CurryOK o n m s) : m.passMap.length = n.length := by
  rewrite [ok.maps]; exact mkPassMap_length _ _

/-- the parameters of the original function are split between the curried function's arguments
    and the values injected from the chain: each has exactly one source -/
theorem CurryOK.partition {o n m s} (ok : CurryOK o n m s) :
    (m.passMap ++ m.curryMap).Perm (List.range o.length) := by
  have hfst : (s.pass.map Prod.fst).Perm (List.range (List.replicate n.length 0).length) := by
    rewrite [List.length_replicate]
    refine (List.perm_ext_iff_of_nodup ok.inv.fst_nodup List.nodup_range).mpr fun j => ?_
    rewrite [List.mem_range]
    constructor
    · intro hj
      obtain ⟨⟨j', k⟩, hjk, rfl⟩ := List.mem_map.mp hj
      exact (ok.fst_lt j' k hjk).1
    · intro hj
      obtain ⟨k, hk⟩ := ok.total j hj
      exact List.mem_map.mpr ⟨(j, k), hk, rfl⟩
  rewrite [ok.maps]
  exact ((setAll_perm s.pass _ hfst).append_right s.cm).trans ok.inv.perm

theorem curriedCall_eq {α} (m : CurryMaps) (numIn : Nat) (args injected : List α) :
    curriedCall m numIn args injected
      = setAll some (setAll some (List.replicate numIn none) (m.passMap.zip args)) (m.curryMap.zip injected) := rfl

theorem curriedCall_length {α} (m : CurryMaps) (numIn : Nat) (args injected : List α) :
    (curriedCall m numIn args injected).length = numIn := by
  rw [curriedCall_eq, setAll_length, setAll_length, List.length_replicate]

/-- the two loops of `curryFunc` are one loop over `passMap.zip args ++ curryMap.zip injected`, whose targets are
    distinct: every target ends up holding its value -/
theorem CurryOK.call {α} {o n m s} (ok : CurryOK o n m s) (args injected : List α)
    (ha : args.length = n.length) (hc : injected.length = m.curryMap.length) {k : Nat} {v : α}
    (hm : (k, v) ∈ m.passMap.zip args ++ m.curryMap.zip injected) :
    (curriedCall m o.length args injected)[k]? = some (some v) := by
  have hperm := ok.partition
  have hfst : (m.passMap.zip args ++ m.curryMap.zip injected).map Prod.fst = m.passMap ++ m.curryMap := by
    rw [List.map_append, List.map_fst_zip (Nat.le_of_eq (ok.passMap_length.trans ha.symm)),
      List.map_fst_zip (Nat.le_of_eq hc.symm)]
  rewrite [curriedCall_eq, setAll_append]
  refine setAll_hit some _ _ k v (hfst ▸ hperm.nodup_iff.mpr List.nodup_range) hm ?_
  rewrite [List.length_replicate]
  exact List.mem_range.mp (hperm.subset (hfst ▸ List.mem_map_of_mem (f := Prod.fst) hm))

theorem CurryOK.types {o n m s} (ok : CurryOK o n m s) :
    (∀ j (hj : j < m.passMap.length), o[m.passMap[j]]? = n[j]?)
    ∧ m.curried = m.curryMap.map (fun k => o.getD k 0)
    ∧ m.curried.Nodup
    ∧ (∀ t ∈ m.curried, t ∉ n) := by
  refine ⟨?_, ?_, ?_, ?_⟩
  · intro j hj
    have hj' : j < n.length := by rewrite [ok.passMap_length] at hj; exact hj
    obtain ⟨k, hk⟩ := ok.total j hj'
    obtain ⟨_, g⟩ := List.getElem?_eq_some_iff.mp (ok.passMap_get j k hk)
    rewrite [g]
    obtain ⟨_, t, h1, h2⟩ := ok.fst_lt j k hk
    rw [h1, h2]
  · rewrite [ok.maps]; exact ok.inv.cur_eq
  · rewrite [ok.maps]; exact ok.inv.cur_nodup
  · intro t ht hn
    have : t ∈ s.cur := by rewrite [ok.maps] at ht; exact ht
    have hemp := ok.inv.cur_notin t this
    obtain ⟨j, hj, hjt⟩ := List.mem_iff_getElem.mp hn
    have : j ∈ positionsOf n t := mem_positionsOf.mpr (by rw [List.getElem?_eq_getElem hj, hjt])
    rewrite [hemp] at this; cases this

/-- two field paths overlap when one lies at or below the other -/
def Overlap (p q : Path) : Prop := p <+: q ∨ q <+: p

def NoOverlap (l : List (Path × Ty)) : Prop := l.Pairwise fun x y => ¬ Overlap x.1 y.1

theorem not_overlap_of_ne (path r1 r2 : Path) (i k : Nat) (h : i ≠ k) :
    ¬ Overlap (path ++ i :: r1) (path ++ k :: r2) := by
  intro hov
  rcases hov with hov | hov
  · rewrite [List.prefix_append_right_inj, List.cons_prefix_cons] at hov; exact h hov.1
  · rewrite [List.prefix_append_right_inj, List.cons_prefix_cons] at hov; exact h hov.1.symm

/-- The documented contract of MakeStructBuilder, stated without reference to `mapStruct`: which
    (field path, type) pairs the builder fills.  Exported fields only; a field whose tags leave it
    skipped is not filled and not descended into; a nested struct is filled field by field unless
    its tags say `whole`. -/
inductive Fills : FFields → Path → Nat → Path × Ty → Prop
  | leaf {tags t rest path i st} :
      applyTags false tags {} = some st → st.skip = false →
      Fills (.cons true tags (.leaf t) rest) path i (path ++ [i], t)
  | whole {tags id fs rest path i st} :
      applyTags true tags {} = some st → st.skip = false → st.whole = true →
      Fills (.cons true tags (.struct id fs) rest) path i (path ++ [i], id)
  | inside {tags id fs rest path i st x} :
      applyTags true tags {} = some st → st.skip = false → st.whole = false →
      Fills fs (path ++ [i]) 0 x →
      Fills (.cons true tags (.struct id fs) rest) path i x
  | later {e tags d rest path i x} :
      Fills rest path (i + 1) x → Fills (.cons e tags d rest) path i x

theorem Fills.form {fs : FFields} {path : Path} {i : Nat} {x : Path × Ty} (h : Fills fs path i x) :
    ∃ k r, i ≤ k ∧ x.1 = path ++ k :: r := by
  induction h with
  | leaf _ _ => exact ⟨_, [], Nat.le_refl _, rfl⟩
  | whole _ _ _ => exact ⟨_, [], Nat.le_refl _, rfl⟩
  | inside _ _ _ _ ih =>
    obtain ⟨k, r, _, e⟩ := ih
    exact ⟨_, k :: r, Nat.le_refl _, by rewrite [e, List.append_assoc]; rfl⟩
  | later _ ih => obtain ⟨k, r, hk, e⟩ := ih; exact ⟨k, r, Nat.le_of_succ_le hk, e⟩

namespace FFields

/-- field `i`'s own inputs `a` lie at or below `path ++ [i]`, those of the later fields `b` elsewhere -/
theorem spec_append {e : Bool} {tags : List FTag} {d : FDesc} {rest : FFields} {path : Path} {i : Nat} {a b : List (Path × Ty)}
    (ha : ∀ x ∈ a, Fills (.cons e tags d rest) path i x ∧ ∃ r, x.1 = path ++ i :: r) (hN : NoOverlap a)
    (hb : (∀ x ∈ b, Fills rest path (i + 1) x) ∧ NoOverlap b) :
    (∀ x ∈ a ++ b, Fills (.cons e tags d rest) path i x) ∧ NoOverlap (a ++ b) := by
  refine ⟨fun x hx => ?_, List.pairwise_append.mpr ⟨hN, hb.2, fun x hx y hy => ?_⟩⟩
  · rcases List.mem_append.mp hx with hx | hx
    · exact (ha x hx).1
    · exact .later (hb.1 x hx)
  · obtain ⟨r, ex⟩ := (ha x hx).2
    obtain ⟨k, r', hk, ey⟩ := (hb.1 y hy).form
    rewrite [ex, ey]; exact not_overlap_of_ne path r r' i k (Nat.ne_of_lt hk)

theorem inputs_spec (fs : FFields) (path : Path) (i : Nat) : ∀ (l : List (Path × Ty)),
    fs.inputs path i = some l → (∀ x ∈ l, Fills fs path i x) ∧ NoOverlap l := by
  -- the cases of `FFields.inputs`: 2 an unexported field, 4 a skipped one, 5 a leaf, 6 a struct filled whole,
  -- 8 a struct filled field by field; 3 and 7 fail
  fun_induction FFields.inputs path i fs with
  | case1 => intro l h; cases h; exact ⟨List.forall_mem_nil _, .nil⟩
  | case2 path i e tags d rest _ ih => exact fun l h => spec_append (a := []) (List.forall_mem_nil _) .nil (ih l h)
  | case3 => intro l h; cases h
  | case4 path i e tags d rest _ st _ _ ih => exact fun l h => spec_append (a := []) (List.forall_mem_nil _) .nil (ih l h)
  | case5 path i e tags rest he st hskip t hst ih =>
    intro l h
    obtain ⟨b, hb, rfl⟩ := Option.map_eq_some_iff.mp h
    cases e with
    | false => exact absurd rfl he
    | true =>
      exact spec_append (a := [_]) (List.forall_mem_singleton.mpr ⟨.leaf hst (Bool.eq_false_iff.mpr hskip), [], rfl⟩)
        (List.pairwise_singleton _ _) (ih b hb)
  | case6 path i e tags rest he st hskip id fs hw hst ih =>
    intro l h
    obtain ⟨b, hb, rfl⟩ := Option.map_eq_some_iff.mp h
    cases e with
    | false => exact absurd rfl he
    | true =>
      exact spec_append (a := [_]) (List.forall_mem_singleton.mpr ⟨.whole hst (Bool.eq_false_iff.mpr hskip) hw, [], rfl⟩)
        (List.pairwise_singleton _ _) (ih b hb)
  | case7 => intro l h; cases h
  | case8 path i e tags rest he st hskip id fs hw a ha hst ihd ih =>
    intro l h
    obtain ⟨b, hb, rfl⟩ := Option.map_eq_some_iff.mp h
    obtain ⟨hF, hN⟩ := ihd a ha
    cases e with
    | false => exact absurd rfl he
    | true =>
      refine spec_append (fun x hx => ⟨.inside hst (Bool.eq_false_iff.mpr hskip) (Bool.eq_false_iff.mpr hw) (hF x hx), ?_⟩) hN (ih b hb)
      obtain ⟨k, r, _, e⟩ := (hF x hx).form
      exact ⟨k :: r, by rewrite [e, List.append_assoc]; rfl⟩

theorem inputs_complete {fs : FFields} {path : Path} {i : Nat} {x : Path × Ty} (hf : Fills fs path i x) :
    ∀ l, fs.inputs path i = some l → x ∈ l := by
  induction hf with
  | leaf hst hskip =>
    intro l h
    simp only [FFields.inputs, FDesc.isStruct, hst, hskip, Bool.not_true, Bool.false_eq_true, if_false] at h
    obtain ⟨b, -, rfl⟩ := Option.map_eq_some_iff.mp h
    exact List.mem_cons_self
  | whole hst hskip hw =>
    intro l h
    simp only [FFields.inputs, FDesc.isStruct, hst, hskip, hw, Bool.not_true, Bool.false_eq_true, if_false, if_true] at h
    obtain ⟨b, -, rfl⟩ := Option.map_eq_some_iff.mp h
    exact List.mem_cons_self
  | inside hst hskip hw _ ih =>
    intro l h
    simp only [FFields.inputs, FDesc.isStruct, hst, hskip, hw, Bool.not_true, Bool.false_eq_true, if_false] at h
    cases ha : FFields.inputs _ 0 _ with
    | none => rewrite [ha] at h; cases h
    | some a =>
      rewrite [ha] at h
      obtain ⟨b, -, rfl⟩ := Option.map_eq_some_iff.mp h
      exact List.mem_append_left _ (ih a ha)
  | @later e tags d rest path i x _ ih =>
    intro l h
    -- whichever way field `i` is treated, the inputs of the later fields are among the inputs
    generalize hfs : cons e tags d rest = fs at h
    revert h
    fun_cases FFields.inputs path i fs with
    | case1 => cases hfs
    | case2 | case4 => cases hfs; exact ih l
    | case3 | case7 => nofun
    | case5 | case6 =>
      cases hfs
      exact fun h => (Option.map_eq_some_iff.mp h).elim fun b hb => hb.2 ▸ List.mem_cons_of_mem _ (ih b hb.1)
    | case8 =>
      cases hfs
      exact fun h => (Option.map_eq_some_iff.mp h).elim fun b hb => hb.2 ▸ List.mem_append_right _ (ih b hb.1)

end FFields

theorem FDesc.inputs_form : ∀ (d : FDesc) (path : Path) (l : List (Path × Ty)), d.inputs path = some l →
    ∀ x ∈ l, ∃ k r, x.1 = path ++ k :: r := by
  intro d path l h
  cases d with
  | leaf _ => cases h; exact List.forall_mem_nil _
  | struct _ fs =>
    intro x hx
    obtain ⟨k, r, _, e⟩ := ((fs.inputs_spec path 0 l h).1 x hx).form
    exact ⟨k, r, e⟩

theorem FFields.inputs_noOverlap (fs : FFields) (path : Path) (i : Nat) (l : List (Path × Ty))
    (h : fs.inputs path i = some l) : NoOverlap l :=
  (fs.inputs_spec path i l h).2

theorem FDesc.inputs_noOverlap (d : FDesc) (path : Path) (l : List (Path × Ty)) (h : d.inputs path = some l) :
    NoOverlap l := by
  cases d with
  | leaf _ => cases h; exact .nil
  | struct _ fs => exact fs.inputs_noOverlap path 0 l h

theorem StructVal.getOr_written (s1 s2 : StructVal) (q : Path) (v : Nat) (suffix : Path) (base : Nat)
    (h2 : ∀ w ∈ s2, ¬ Overlap w.1 q) :
    StructVal.getOr (s1 ++ (q, v) :: s2) (q ++ suffix) base = v := by
  unfold StructVal.getOr
  have hfind : (s1 ++ (q, v) :: s2).reverse.find? (fun w => w.1.isPrefixOf (q ++ suffix)) = some (q, v) := by
    rw [List.find?_eq_some_iff_append]
    refine ⟨by simp, s2.reverse, s1.reverse, by simp, ?_⟩
    intro a ha
    rw [Bool.not_eq_true', ← Bool.not_eq_true, List.isPrefixOf_iff_prefix]
    exact fun hp => h2 a (List.mem_reverse.mp ha)
      (List.prefix_or_prefix_of_prefix hp (List.prefix_append q suffix))
  rw [hfind]

theorem StructVal.getOr_untouched (s : StructVal) (p : Path) (base : Nat) (h : ∀ w ∈ s, ¬ w.1 <+: p) :
    StructVal.getOr s p base = base := by
  unfold StructVal.getOr
  have : s.reverse.find? (fun w => w.1.isPrefixOf p) = none := by
    rw [List.find?_eq_none]
    intro x hx hp
    rewrite [List.isPrefixOf_iff_prefix] at hp
    exact h x (List.mem_reverse.mp hx) hp
  rw [this]

theorem fillerCall_map (ins : List (Path × Ty)) (f : Path × Ty → Nat) :
    fillerCall ins (ins.map f) = ins.map fun pt => (pt.1, f pt) := by
  unfold fillerCall
  induction ins with
  | nil => rfl
  | cons x xs ih => simp [List.zip_cons_cons, ih]

theorem filler_fills (ins : List (Path × Ty)) (hno : NoOverlap ins) (f : Path × Ty → Nat)
    (x : Path × Ty) (hx : x ∈ ins) (suffix : Path) (base : Nat) :
    (fillerCall ins (ins.map f)).getOr (x.1 ++ suffix) base = f x := by
  rewrite [fillerCall_map]
  obtain ⟨a, b, rfl⟩ := List.append_of_mem hx
  have hxb : ∀ y ∈ b, ¬ Overlap x.1 y.1 := (List.pairwise_cons.mp (List.pairwise_append.mp hno).2.1).1
  rewrite [List.map_append, List.map_cons]
  refine StructVal.getOr_written _ _ _ _ _ _ fun w hw hov => ?_
  obtain ⟨y, hy, rfl⟩ := List.mem_map.mp hw
  exact hxb y hy (Or.symm hov)

theorem filler_leaves_rest (ins : List (Path × Ty)) (f : Path × Ty → Nat) (p : Path) (base : Nat)
    (h : ∀ x ∈ ins, ¬ x.1 <+: p) : (fillerCall ins (ins.map f)).getOr p base = base := by
  rewrite [fillerCall_map]
  refine StructVal.getOr_untouched _ _ _ fun w hw => ?_
  obtain ⟨y, hy, rfl⟩ := List.mem_map.mp hw
  exact h y hy

end Nject
