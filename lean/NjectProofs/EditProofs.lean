import Nject.Edit
import NjectProofs.ListFacts
/-
  Lemmas about the list surgery of named edits.  All three directives cut a block at the cursor and put it
  back somewhere else in what is left (`relocate`); ReplaceNamed cuts the target block out first.  What the loop over the
  directives keeps (`EditInv`: untagged providers in order, nothing lost but replaced targets), and where a step fails.
-/
namespace Nject

theorem cutAt_eq (l : List ENode) (k : Nat) (p : ENode → Bool) :
    l = (cutAt l k p).1 ++ (cutAt l k p).2.1 ++ (cutAt l k p).2.2 := by
  simp only [cutAt, List.append_assoc, List.takeWhile_append_dropWhile]

theorem cutAt_block_all (l : List ENode) (k : Nat) (p : ENode → Bool) :
    ∀ x ∈ (cutAt l k p).2.1, p x = true :=
  List.all_eq_true.mp (@List.all_takeWhile _ p (l.dropWhile (·.idx != k)))

theorem cutAt_rest_perm (l : List ENode) (k : Nat) (p : ENode → Bool) :
    l.Perm ((cutAt l k p).2.1 ++ ((cutAt l k p).1 ++ (cutAt l k p).2.2)) := by
  conv => lhs; rewrite [cutAt_eq l k p, List.append_assoc]
  exact List.perm_append_comm_assoc _ _ _

theorem cutAt_rest_sublist (l : List ENode) (k : Nat) (p : ENode → Bool) :
    ((cutAt l k p).1 ++ (cutAt l k p).2.2).Sublist l := by
  conv => rhs; rewrite [cutAt_eq l k p, List.append_assoc]
  exact List.Sublist.append (List.Sublist.refl _) (List.sublist_append_right _ _)

theorem cutAt_block_filter (l : List ENode) (k : Nat) (p q : ENode → Bool) (h : ∀ x, p x = true → q x = false) :
    (cutAt l k p).2.1.filter q = [] :=
  List.filter_eq_nil_iff.mpr fun a ha => by rewrite [h a (cutAt_block_all l k p a ha)]; exact Bool.false_ne_true

theorem cutAt_rest_filter (l : List ENode) (k : Nat) (p q : ENode → Bool) (h : ∀ x, p x = true → q x = false) :
    ((cutAt l k p).1 ++ (cutAt l k p).2.2).filter q = l.filter q := by
  conv => rhs; rw [cutAt_eq l k p]
  rw [List.filter_append, List.filter_append, List.filter_append, cutAt_block_filter l k p q h, List.append_nil]

/-- the inserted block sits contiguously in the result, at the requested position -/
theorem insertAtPos_shape (l b : List ENode) (p : Nat) :
    insertAtPos l b p = l.take p ++ b ++ l.drop p := rfl

theorem insertAtPos_perm (l b : List ENode) (p : Nat) : (insertAtPos l b p).Perm (b ++ l) := by
  unfold insertAtPos
  have h1 : (List.take p l ++ b ++ List.drop p l).Perm (b ++ List.take p l ++ List.drop p l) :=
    List.Perm.append_right _ List.perm_append_comm
  refine h1.trans ?_
  rw [List.append_assoc, List.take_append_drop]

theorem insertAtPos_filter (l b : List ENode) (p : Nat) (q : ENode → Bool) (hb : b.filter q = []) :
    (insertAtPos l b p).filter q = l.filter q := by
  unfold insertAtPos
  rw [List.filter_append, List.filter_append, hb, List.append_nil, ← List.filter_append, List.take_append_drop]

/-- cut the block that starts at node `k` and extends while `p` holds, and put it back at position `pos` of
    what is left; also the block and the node that followed it -/
def relocate (l : List ENode) (k : Nat) (p : ENode → Bool) (pos : List ENode × List ENode × List ENode → Nat) :
    List ENode × List ENode × Option Nat :=
  (insertAtPos ((cutAt l k p).1 ++ (cutAt l k p).2.2) (cutAt l k p).2.1 (pos (cutAt l k p)), (cutAt l k p).2.1,
    headIdx (cutAt l k p).2.2)

theorem moveBefore_eq (cur : List ENode) (n : ENode) (ent : NameEntry) :
    moveBefore cur n ent = relocate cur n.idx (·.bef == n.bef) fun c => posOf (c.1 ++ c.2.2) (some ent.first) := rfl

theorem moveAfter_eq (cur : List ENode) (n : ENode) (ent : NameEntry) :
    moveAfter cur n ent = relocate cur n.idx (·.aft == n.aft) fun c => posOf (c.1 ++ c.2.2) (some ent.last) + 1 := rfl

/-- where ReplaceNamed puts the moving block `c.2.1`: where the target was, `post` being what followed the target -/
def replacePos (post : List ENode) (c : List ENode × List ENode × List ENode) : Nat :=
  posOf (c.1 ++ c.2.2) (match headIdx post with
    | none => none
    | some xi => if (idxs c.2.1).contains xi then headIdx c.2.2 else some xi)

theorem moveReplace_eq (cur : List ENode) (n : ENode) (ent : NameEntry) :
    moveReplace cur n ent =
      let ct := cutAt cur ent.first (·.origin == n.rep)
      let r := relocate (ct.1 ++ ct.2.2) n.idx (·.rep == n.rep) (replacePos ct.2.2)
      (r.1, ct.2.1, r.2.1, r.2.2) := rfl

section
variable (l : List ENode) (k : Nat) (p : ENode → Bool) (pos : List ENode × List ENode × List ENode → Nat)

theorem relocate_perm : (relocate l k p pos).1.Perm l :=
  (insertAtPos_perm _ _ _).trans (cutAt_rest_perm l k p).symm

theorem relocate_filter (q : ENode → Bool) (h : ∀ x, p x = true → q x = false) :
    (relocate l k p pos).1.filter q = l.filter q :=
  (insertAtPos_filter _ _ _ q (cutAt_block_filter l k p q h)).trans (cutAt_rest_filter l k p q h)

end

theorem ENode.plain_false {x : ENode} (h : x.rep ≠ 0 ∨ x.bef ≠ 0 ∨ x.aft ≠ 0) : x.plain = false := by
  cases hp : x.plain with
  | false => rfl
  | true =>
    simp only [ENode.plain, Bool.and_eq_true, beq_iff_eq] at hp
    rcases h with h | h | h
    · exact absurd hp.1.1 h
    · exact absurd hp.1.2 h
    · exact absurd hp.2 h

section
variable (cur : List ENode) (n : ENode) (ent : NameEntry)

theorem moveBefore_perm : (moveBefore cur n ent).1.Perm cur := by
  rewrite [moveBefore_eq]; exact relocate_perm cur _ _ _

theorem moveAfter_perm : (moveAfter cur n ent).1.Perm cur := by
  rewrite [moveAfter_eq]; exact relocate_perm cur _ _ _

theorem moveBefore_plain (hn : n.bef ≠ 0) : (moveBefore cur n ent).1.filter (·.plain) = cur.filter (·.plain) := by
  rewrite [moveBefore_eq]; exact relocate_filter cur _ _ _ _ fun x hx => ENode.plain_false (.inr (.inl (by rewrite [beq_iff_eq.mp hx]; exact hn)))

theorem moveAfter_plain (hn : n.aft ≠ 0) : (moveAfter cur n ent).1.filter (·.plain) = cur.filter (·.plain) := by
  rewrite [moveAfter_eq]; exact relocate_filter cur _ _ _ _ fun x hx => ENode.plain_false (.inr (.inr (by rewrite [beq_iff_eq.mp hx]; exact hn)))

theorem moveReplace_removed_named : ∀ x ∈ (moveReplace cur n ent).2.1, x.origin = n.rep :=
  fun x hx => beq_iff_eq.mp (cutAt_block_all cur ent.first (·.origin == n.rep) x hx)

theorem moveReplace_perm : cur.Perm ((moveReplace cur n ent).2.1 ++ (moveReplace cur n ent).1) :=
  (cutAt_rest_perm cur ent.first _).trans
    (List.Perm.append_left _ (relocate_perm _ n.idx (·.rep == n.rep) (replacePos _)).symm)

theorem moveReplace_plain (hn : n.rep ≠ 0) :
    ((moveReplace cur n ent).1.filter (·.plain)).Sublist (cur.filter (·.plain)) := by
  rewrite [moveReplace_eq]
  dsimp only
  rewrite [relocate_filter _ n.idx (·.rep == n.rep) _ _ fun x hx => ENode.plain_false (.inl (by rewrite [beq_iff_eq.mp hx]; exact hn))]
  exact (cutAt_rest_sublist cur ent.first _).filter _

end

theorem posOf_split (l : List ENode) (k : Nat) (h : k ∈ idxs l) :
    ∃ pre x post, l = pre ++ x :: post ∧ x.idx = k ∧ posOf l (some k) = pre.length := by
  obtain ⟨a, ha, rfl⟩ := List.mem_map.mp h
  obtain ⟨x, hx, e⟩ := takeWhile_split (·.idx != a.idx) ha (by simp)
  exact ⟨_, x, _, e, by simpa using hx, rfl⟩

theorem posOf_drop_head (l : List ENode) (k : Nat) (h : k ∈ idxs l) :
    headIdx (l.drop (posOf l (some k))) = some k := by
  obtain ⟨pre, x, post, rfl, hx, hp⟩ := posOf_split l k h
  rewrite [hp, List.drop_left]
  exact congrArg some hx

theorem preCheck_of_two_tags (l : List ENode) (h : ∃ n ∈ l, n.tags > 1) : ∃ e, preCheck l = some e := by
  obtain ⟨n, hn, ht⟩ := h
  fun_induction preCheck l with
  | case1 => exact absurd hn List.not_mem_nil
  | case2 | case3 => exact ⟨_, rfl⟩
  | case4 x xs h1 _ ih => exact ih ((List.mem_cons.mp hn).resolve_left fun e => h1 (e ▸ ht))

/-- the step that reaches a tagged provider whose target cannot be looked up fails with the error of the lookup,
    whichever of the three directives it carries -/
theorem editStep_error_of_lookup_any (s : EState) (n : ENode) (hn : s.cur[s.pos]? = some n)
    (hproc : n.idx ∉ s.processed) (hpl : n.plain = false) (e : EditErr)
    (hl : lookupName s.names (if n.rep != 0 then n.rep else if n.bef != 0 then n.bef else n.aft) = .error e) :
    editStep s = .error e := by
  have hc : (s.processed.contains n.idx || n.plain) = false := by simp [hproc, hpl]
  unfold editStep
  simp only [hn, hc, Bool.false_eq_true, if_false]
  by_cases h : (n.rep != 0) = true
  · rewrite [if_pos h] at hl ⊢; rw [hl]
  · rewrite [if_neg h] at hl ⊢
    by_cases h' : (n.bef != 0) = true
    · rewrite [if_pos h'] at hl ⊢; rw [hl]
    · rewrite [if_neg h'] at hl ⊢; rw [hl]

/-- invariant of the edit loop (`editLoop`), relative to the supplied list `l` -/
structure EditInv (l : List ENode) (cur : List ENode) : Prop where
  plain : (cur.filter (·.plain)).Sublist (l.filter (·.plain))
  perm : ∃ removed, l.Perm (removed ++ cur) ∧ ∀ x ∈ removed, ∃ n ∈ l, n.rep ≠ 0 ∧ x.origin = n.rep

theorem EditInv.moved {l cur cur' : List ENode} (hi : EditInv l cur) (hp : cur'.Perm cur)
    (hf : cur'.filter (·.plain) = cur.filter (·.plain)) : EditInv l cur' :=
  ⟨hf ▸ hi.plain, let ⟨removed, hperm, hrem⟩ := hi.perm
    ⟨removed, hperm.trans (List.Perm.append_left _ hp.symm), hrem⟩⟩

theorem editStep_inv (l : List ENode) (s s' : EState) (h : editStep s = .ok (some s'))
    (hi : EditInv l s.cur) : EditInv l s'.cur := by
  revert h
  fun_cases editStep s with
  | case1 | case3 | case5 | case7 => intro h; cases h
  | case2 => intro h; cases h; exact hi
  | case4 n hn _ hrep ent =>
    intro h; obtain rfl := Option.some.inj (Except.ok.inj h)
    have hrep' : n.rep ≠ 0 := bne_iff_ne.mp hrep
    obtain ⟨removed, hperm, hrem⟩ := hi.perm
    have hnl : n ∈ l := hperm.symm.subset (List.mem_append_right _ (List.mem_of_getElem? hn))
    refine ⟨(moveReplace_plain s.cur n ent hrep').trans hi.plain, removed ++ (moveReplace s.cur n ent).2.1, ?_, ?_⟩
    · rewrite [List.append_assoc]
      exact hperm.trans (List.Perm.append_left _ (moveReplace_perm s.cur n ent))
    · intro x hx
      rcases List.mem_append.mp hx with h1 | h2
      · exact hrem x h1
      · exact ⟨n, hnl, hrep', moveReplace_removed_named s.cur n ent x h2⟩
  | case6 n _ _ _ hbef ent =>
    intro h; obtain rfl := Option.some.inj (Except.ok.inj h)
    exact hi.moved (moveBefore_perm s.cur n ent) (moveBefore_plain s.cur n ent (bne_iff_ne.mp hbef))
  | case8 n _ hskip hrep hbef ent =>
    intro h; obtain rfl := Option.some.inj (Except.ok.inj h)
    -- neither skipped, nor replace, nor insert-before: the node is tagged, so it is insert-after
    have haft : n.aft ≠ 0 := by
      intro h0
      have hr : n.rep = 0 := bne_eq_false_iff_eq.mp (Bool.of_not_eq_true hrep)
      have hb : n.bef = 0 := bne_eq_false_iff_eq.mp (Bool.of_not_eq_true hbef)
      have hp : n.plain = true := by rewrite [ENode.plain, hr, hb, h0]; rfl
      exact hskip (by rw [hp, Bool.or_true])
    exact hi.moved (moveAfter_perm s.cur n ent) (moveAfter_plain s.cur n ent haft)

theorem editLoop_inv (l : List ENode) (fuel : Nat) (s : EState) (r : List ENode)
    (h : editLoop fuel s = .ok r) (hi : EditInv l s.cur) : EditInv l r := by
  fun_induction editLoop fuel s with
  | case1 | case2 => cases h
  | case3 => cases h; exact hi
  | case4 fuel s s' hs ih => exact ih h (editStep_inv l s s' hs hi)

theorem handleReplaceByName_inv (l r : List ENode) (h : handleReplaceByName l = .ok r) : EditInv l r := by
  have h0 : EditInv l l := ⟨List.Sublist.refl _, [], List.Perm.refl l, List.forall_mem_nil _⟩
  revert h
  fun_cases handleReplaceByName l with
  | case1 => intro h; cases h; exact h0
  | case2 => nofun
  | case3 => exact fun h => editLoop_inv l _ _ r h h0

theorem handleReplaceByName_mem (l r : List ENode) (h : handleReplaceByName l = .ok r) : ∀ n ∈ r, n ∈ l :=
  let ⟨_, hp, _⟩ := (handleReplaceByName_inv l r h).perm
  fun _ hn => hp.mem_iff.mpr (List.mem_append_right _ hn)

end Nject
