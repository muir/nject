import Nject.ReorderAlg
import NjectProofs.ListFacts
/-
  `topo.run` (reorder.go:257-410) stated once.  `Iter s x z i rel` describes a whole iteration of the loop -- `i` taken
  off the queue or the list of fixed providers, marked, `release · i` called on `targets` -- in the terms an invariant
  speaks in (`done`, `out`, the `after` sets by membership, which nodes wait in the queue, how long it is), whether or
  not `i` had been processed before; `loop_induction` and `loop_fuel` are the induction principles over it, `Started`
  is the state the loop starts from.  Inside: `Pick` (the pop), `Released` (what `release · i` on a list of nodes
  does, composed by `Released.trans`).  Nothing outside this file unfolds these operations.
-/
namespace Nject

theorem NMap.get_set (m : NMap) (k k' : Nat) (v : List Nat) :
    (m.set k v).get k' = if k' = k then v else m.get k' := by
  unfold NMap.set NMap.get
  by_cases h : k' = k
  · rewrite [List.lookup_cons, beq_iff_eq.mpr h, if_pos h]; rfl
  · rw [List.lookup_cons, beq_false_of_ne h, if_neg h]

theorem NMap.get_nil (k : Nat) : NMap.get ([] : NMap) k = [] := rfl

theorem mem_setDel {l : List Nat} {x a : Nat} : a ∈ setDel l x ↔ a ∈ l ∧ a ≠ x := by
  unfold setDel; simp

theorem mem_setIns {l : List Nat} {x a : Nat} : a ∈ setIns l x ↔ a ∈ l ∨ a = x := by
  unfold setIns
  by_cases h : x ∈ l
  · simp only [List.contains_iff_mem, h, if_true]
    exact ⟨Or.inl, fun h' => h'.elim id (fun e => e ▸ h)⟩
  · simp [h]

theorem heapMin_mem {h : RHeap} {m} (hm : heapMin h = some m) : m ∈ h := by
  induction h generalizing m with
  | nil => cases hm
  | cons e rest ih =>
    unfold heapMin at hm
    cases hr : heapMin rest with
    | none => rewrite [hr] at hm; cases hm; exact List.mem_cons_self ..
    | some m' =>
      rewrite [hr] at hm
      dsimp only at hm
      by_cases hle : e.1 ≤ m'.1
      · rewrite [if_pos hle] at hm; cases hm; exact List.mem_cons_self ..
      · rewrite [if_neg hle] at hm; cases hm; exact List.mem_cons_of_mem _ (ih hr)

theorem heapMin_none {h : RHeap} (hm : heapMin h = none) : h = [] := by
  cases h with
  | nil => rfl
  | cons e rest =>
    unfold heapMin at hm
    cases hr : heapMin rest with
    | none => simp [hr] at hm
    | some m => simp only [hr] at hm; split at hm <;> cases hm

theorem heapPop_none {h : RHeap} (hp : heapPop h = none) : h = [] := by
  unfold heapPop at hp
  cases hm : heapMin h with
  | none => exact heapMin_none hm
  | some m => simp [hm] at hp

theorem heapPop_some {h : RHeap} {i : Nat} {rest : RHeap} (hp : heapPop h = some (i, rest)) : ∃ p, h.Perm ((p, i) :: rest) := by
  unfold heapPop at hp
  cases hm : heapMin h with
  | none => rewrite [hm] at hp; cases hp
  | some m =>
    rewrite [hm] at hp
    cases hp
    exact ⟨m.1, List.perm_cons_erase (heapMin_mem hm)⟩

/-- The two heaps as one queue: which of them holds an entry decides only when it is taken, and no invariant depends
    on that.  Pushing and popping are permutations `q' ~ e :: q`. -/
def Topo.queue (x : Topo) : RHeap := x.unblocked ++ x.weakBlocked

def Topo.waits (x : Topo) (m : Nat) : Prop := ∃ e ∈ x.queue, e.2 = m

def Topo.load (x : Topo) : Nat := x.queue.length + x.cannotReorder.length

theorem Topo.waits_of_mem {x : Topo} {e : Nat × Nat} (h : e ∈ x.unblocked ∨ e ∈ x.weakBlocked) : x.waits e.2 :=
  ⟨e, List.mem_append.mpr h, rfl⟩

theorem Topo.not_waits {x : Topo} (h : x.queue = []) (m : Nat) : ¬ x.waits m := by
  rintro ⟨e, he, _⟩
  rewrite [h] at he
  cases he

theorem Topo.waits_cons {x y : Topo} {e : Nat × Nat} (h : y.queue.Perm (e :: x.queue)) (m : Nat) :
    y.waits m ↔ x.waits m ∨ m = e.2 := by
  constructor
  · rintro ⟨e', he, hm⟩
    exact (List.mem_cons.mp (h.mem_iff.mp he)).elim (fun e => Or.inr (e ▸ hm.symm)) (fun he => Or.inl ⟨e', he, hm⟩)
  · rintro (⟨e', he, hm⟩ | hm)
    · exact ⟨e', h.mem_iff.mpr (List.mem_cons_of_mem _ he), hm⟩
    · exact ⟨e, h.mem_iff.mpr List.mem_cons_self, hm.symm⟩

theorem Topo.load_cons {x y : Topo} {e : Nat × Nat} (h : y.queue.Perm (e :: x.queue)) (hc : y.cannotReorder = x.cannotReorder) :
    y.load = x.load + 1 := by
  unfold Topo.load
  rw [h.length_eq, hc, List.length_cons, Nat.add_right_comm]

theorem Topo.queue_pushU (s : TopoS) (x : Topo) (n : Nat) : (x.pushU s n).queue.Perm ((prio s.n s.isReorder n, n) :: x.queue) :=
  List.Perm.refl _

theorem Topo.queue_pushW (s : TopoS) (x : Topo) (n : Nat) : (x.pushW s n).queue.Perm ((prio s.n s.isReorder n, n) :: x.queue) :=
  List.perm_middle

/-- reorder.go:344-362, one iteration up to the call of `processOne · i rel`: where `i` is taken from, `q` and `c` being
    what is left of the queue and of the list of fixed providers -/
def Pick (x : Topo) (q : RHeap) (c : List Nat) (i : Nat) (rel : Bool) : Prop :=
  (∃ p, x.queue.Perm ((p, i) :: q) ∧ rel = true ∧ c = x.cannotReorder) ∨
    (x.queue = [] ∧ q = [] ∧ x.cannotReorder = i :: c ∧ rel = (x.after.get i).isEmpty)

theorem loop_succ (s : TopoS) (fuel : Nat) (x : Topo) :
    (x.queue = [] ∧ x.cannotReorder = [] ∧ Topo.loop s (fuel + 1) x = x) ∨
    ∃ u w c i rel, Pick x (u ++ w) c i rel ∧
      Topo.loop s (fuel + 1) x = Topo.loop s fuel (Topo.processOne s { x with unblocked := u, weakBlocked := w, cannotReorder := c } i rel) := by
  rewrite [Topo.loop]
  cases hu : heapPop x.unblocked with
  | some pr =>
    obtain ⟨p, hp⟩ := heapPop_some hu
    exact Or.inr ⟨pr.2, x.weakBlocked, x.cannotReorder, pr.1, true, Or.inl ⟨p, hp.append_right _, rfl, rfl⟩, rfl⟩
  | none =>
    have hue := heapPop_none hu
    cases hw : heapPop x.weakBlocked with
    | some pr =>
      obtain ⟨p, hp⟩ := heapPop_some hw
      exact Or.inr ⟨x.unblocked, pr.2, x.cannotReorder, pr.1, true, Or.inl ⟨p, (hp.append_left _).trans List.perm_middle, rfl, rfl⟩, rfl⟩
    | none =>
      have hq : x.queue = [] := by unfold Topo.queue; rewrite [hue, heapPop_none hw]; rfl
      cases hc : x.cannotReorder with
      | nil => exact Or.inl ⟨hq, rfl, rfl⟩
      | cons i cr => exact Or.inr ⟨x.unblocked, x.weakBlocked, cr, i, (x.after.get i).isEmpty, Or.inr ⟨hq, hq, hc, rfl⟩, rfl⟩

theorem Topo.mem_leftOver {s : TopoS} {x : Topo} {i : Nat} : i ∈ x.leftOver s ↔ i < s.n ∧ i ∉ x.done := by
  simp only [Topo.leftOver, List.mem_filter, List.mem_range, Bool.not_eq_true', List.contains_eq_mem, decide_eq_false_iff_not]

/-- provider `p` releases the type node `num` when it is processed -/
def Releases (s : TopoS) (p num : Nat) : Prop :=
  (∃ t ∈ s.outOf p, s.downTypes.lookup t = some num) ∨ (∃ t ∈ s.recvOf p, s.upTypes.lookup t = some num)

/-- `i` has left the `after` sets of the providers among `l`; the sets of `x` and `y` differ in nothing else.  The sets are
    spoken of by membership only: they are Go maps, and it makes `Released.trans` propositional logic. -/
def AftDel (s : TopoS) (i : Nat) (l : List Nat) (x y : Topo) : Prop :=
  ∀ a b, b ∈ y.after.get a ↔ b ∈ x.after.get a ∧ (b = i → a ∈ l → s.n ≤ a)

section rel
variable {s : TopoS} {i : Nat} {l l' : List Nat} {x y z : Topo} {a b : Nat}

theorem AftDel.sub (h : AftDel s i l x y) (hb : b ∈ y.after.get a) : b ∈ x.after.get a := ((h a b).mp hb).1

theorem AftDel.keep (h : AftDel s i l x y) (hb : b ∈ x.after.get a) (hne : b ≠ i) : b ∈ y.after.get a :=
  (h a b).mpr ⟨hb, fun e => (hne e).elim⟩

theorem AftDel.del (h : AftDel s i l x y) (ha : a ∈ l) (hlt : a < s.n) : i ∉ y.after.get a :=
  fun hi => Nat.not_le_of_lt hlt (((h a i).mp hi).2 rfl ha)

theorem AftDel.nil_of_nil (h : AftDel s i l x y) (he : x.after.get a = []) : y.after.get a = [] :=
  List.eq_nil_iff_forall_not_mem.mpr fun b hb => by have := h.sub hb; rewrite [he] at this; exact List.not_mem_nil this

/-- `release · i` (reorder.go:313-333) has been called on the nodes `l` -/
structure Released (s : TopoS) (i : Nat) (l : List Nat) (x y : Topo) : Prop where
  out : y.out = x.out
  done : y.done = x.done
  cr : y.cannotReorder = x.cannotReorder
  fuel : y.fuelOut = x.fuelOut
  aft : AftDel s i l x y
  waits : ∀ m, y.waits m ↔ x.waits m ∨ (m ∈ l ∧ (s.n ≤ m ∨ y.after.get m = []))
  load : y.load ≤ x.load + l.length

theorem Released.weakAfter (w : NMap) : Released s i [] x { x with weakAfter := w } where
  out := rfl
  done := rfl
  cr := rfl
  fuel := rfl
  aft := fun _ _ => ⟨fun h => ⟨h, fun _ h' => absurd h' List.not_mem_nil⟩, fun h => h.1⟩
  waits := fun _ => ⟨Or.inl, fun h => h.elim id fun h => absurd h.1 List.not_mem_nil⟩
  load := Nat.le_refl _

theorem Released.refl : Released s i [] x x := Released.weakAfter x.weakAfter

theorem Released.trans (h1 : Released s i l x y) (h2 : Released s i l' y z) : Released s i (l ++ l') x z where
  out := h2.out.trans h1.out
  done := h2.done.trans h1.done
  cr := h2.cr.trans h1.cr
  fuel := h2.fuel.trans h1.fuel
  aft := fun a b => by
    rewrite [h2.aft, h1.aft, List.mem_append]
    constructor
    · rintro ⟨⟨h, p⟩, q⟩
      exact ⟨h, fun e m => m.elim (p e) (q e)⟩
    · rintro ⟨h, p⟩
      exact ⟨⟨h, fun e m => p e (Or.inl m)⟩, fun e m => p e (Or.inr m)⟩
  waits := fun m => by
    rewrite [h2.waits, h1.waits, List.mem_append, or_assoc]
    refine or_congr_right ⟨?_, ?_⟩
    · rintro (⟨hm, hc⟩ | ⟨hm, hc⟩)
      · exact ⟨Or.inl hm, hc.imp_right h2.aft.nil_of_nil⟩
      · exact ⟨Or.inr hm, hc⟩
    · rintro ⟨hm | hm, hc⟩
      · refine Or.inl ⟨hm, (Nat.lt_or_ge m s.n).symm.imp_right fun hlt => ?_⟩
        -- `i` left the set of `m` in the first part, and nothing else leaves it in the second
        have hz := hc.resolve_left (Nat.not_le_of_lt hlt)
        exact List.eq_nil_iff_forall_not_mem.mpr fun b hb => by
          have := h2.aft.keep hb (fun e => h1.aft.del hm hlt (e ▸ hb)); rewrite [hz] at this; exact List.not_mem_nil this
      · exact Or.inr ⟨hm, hc⟩
  load := by
    rewrite [List.length_append, ← Nat.add_assoc]
    exact Nat.le_trans h2.load (Nat.add_le_add_right h1.load _)

end rel

/-- `release n i`: `n` gets an entry, in whichever heap, exactly when it is a type node or its `after` set has become empty -/
theorem Released.single {s : TopoS} {i n p : Nat} {x y : Topo}
    (ho : y.out = x.out) (hd : y.done = x.done) (hc : y.cannotReorder = x.cannotReorder) (hf : y.fuelOut = x.fuelOut)
    (ha : AftDel s i [n] x y)
    (hq : y.queue.Perm ((p, n) :: x.queue) ∧ (s.n ≤ n ∨ y.after.get n = []) ∨ y.queue = x.queue ∧ ¬ (s.n ≤ n ∨ y.after.get n = [])) :
    Released s i [n] x y where
  out := ho
  done := hd
  cr := hc
  fuel := hf
  aft := ha
  waits := fun m => by
    rewrite [List.mem_singleton]
    rcases hq with ⟨hp, he⟩ | ⟨hq, hne⟩
    · rewrite [Topo.waits_cons hp]
      exact or_congr_right ⟨fun e => ⟨e, e ▸ he⟩, fun h => h.1⟩
    · unfold Topo.waits
      rewrite [hq]
      exact (or_iff_left fun h : m = n ∧ _ => hne (h.1 ▸ h.2)).symm
  load := by
    rcases hq with ⟨hp, _⟩ | ⟨hq, _⟩
    · exact Nat.le_of_eq (Topo.load_cons hp hc)
    · unfold Topo.load
      rewrite [hq, hc]
      exact Nat.le_succ _

theorem release_released (s : TopoS) (x : Topo) (n i : Nat) : Released s i [n] x (x.release s n i) := by
  unfold Topo.release
  by_cases hge : n ≥ s.n
  · rewrite [if_pos hge]
    exact Released.single rfl rfl rfl rfl (fun a b => ⟨fun h => ⟨h, fun _ ha => by rewrite [List.mem_singleton.mp ha]; exact hge⟩, fun h => h.1⟩)
      (Or.inl ⟨Topo.queue_pushU s x n, Or.inl hge⟩)
  · rewrite [if_neg hge]
    let x1 : Topo := { x with after := x.after.set n (setDel (x.after.get n) i), weakAfter := x.weakAfter.set n (setDel (x.weakAfter.get n) i) }
    show Released s i [n] x (if (x1.after.get n).isEmpty = true then (if (x1.weakAfter.get n).isEmpty = true then x1.pushU s n else x1.pushW s n) else x1)
    have ha : AftDel s i [n] x x1 := fun a b => by
      show b ∈ (x.after.set n (setDel (x.after.get n) i)).get a ↔ _
      rewrite [NMap.get_set]
      by_cases e : a = n
      · subst e
        rewrite [if_pos rfl, mem_setDel]
        exact ⟨fun h => ⟨h.1, fun e => (h.2 e).elim⟩, fun h => ⟨h.1, fun e => hge (h.2 e (List.mem_singleton.mpr rfl))⟩⟩
      · rewrite [if_neg e]
        exact ⟨fun h => ⟨h, fun _ h' => (e (List.mem_singleton.mp h')).elim⟩, fun h => h.1⟩
    by_cases hemp : (x1.after.get n).isEmpty = true
    · have he : s.n ≤ n ∨ x1.after.get n = [] := Or.inr (List.isEmpty_iff.mp hemp)
      rewrite [if_pos hemp]
      by_cases hw : (x1.weakAfter.get n).isEmpty = true
      · rewrite [if_pos hw]
        exact Released.single rfl rfl rfl rfl ha (Or.inl ⟨Topo.queue_pushU s x1 n, he⟩)
      · rewrite [if_neg hw]
        exact Released.single rfl rfl rfl rfl ha (Or.inl ⟨Topo.queue_pushW s x1 n, he⟩)
    · rewrite [if_neg hemp]
      exact Released.single (p := 0) rfl rfl rfl rfl ha (Or.inr ⟨rfl, fun h => hemp (List.isEmpty_iff.mpr (h.resolve_left hge))⟩)

theorem foldl_released (s : TopoS) (i : Nat) {α} (f : α → Option Nat) (l : List α) (x : Topo) :
    Released s i (l.filterMap f) x (l.foldl (fun x a => match f a with | some n => x.release s n i | none => x) x) := by
  induction l generalizing x with
  | nil => exact Released.refl
  | cons a l ih =>
    rewrite [List.foldl_cons, List.filterMap_cons]
    cases f a with
    | none => exact ih x
    | some n => exact (release_released s x n i).trans (ih _)

theorem releaseNode_released (s : TopoS) (x : Topo) (i : Nat) : Released s i (s.before.get i) x (x.releaseNode s i) := by
  have hw : ∀ (l : List Nat) (y : Topo), Released s i [] y
      (l.foldl (fun (x : Topo) n => { x with weakAfter := x.weakAfter.set n (setDel (x.weakAfter.get n) i) }) y) := by
    intro l
    induction l with
    | nil => exact fun y => Released.refl
    | cons a l ih => exact fun y => (Released.weakAfter _).trans (ih _)
  have h := (hw (s.weakBefore.get i) x).trans (foldl_released s i some (s.before.get i) _)
  rewrite [List.filterMap_some] at h
  exact h

def tyTargets (s : TopoS) (i : Nat) : List Nat :=
  (s.outOf i).filterMap (fun t => s.downTypes.lookup t) ++ (s.recvOf i).filterMap (fun t => s.upTypes.lookup t)

theorem mem_tyTargets {s : TopoS} {i n : Nat} : n ∈ tyTargets s i ↔ Releases s i n := by
  simp only [tyTargets, Releases, List.mem_append, List.mem_filterMap]

theorem releaseProvider_released (s : TopoS) (x : Topo) (i : Nat) : Released s i (tyTargets s i) x (x.releaseProvider s i) :=
  (foldl_released s i (fun t => s.downTypes.lookup t) (s.outOf i) x).trans (foldl_released s i (fun t => s.upTypes.lookup t) (s.recvOf i) _)

/-- reorder.go:364-380: nothing happens to a node that has been processed before.  `len(funcs) < i` there too, though
    `release` tests `len(funcs) ≤ n`: no node has the number `len(funcs)`. -/
def Topo.mark (s : TopoS) (x : Topo) (i : Nat) : Topo :=
  { x with done := if i ∈ x.done then x.done else i :: x.done, out := if i ∈ x.done ∨ s.n < i then x.out else x.out ++ [i] }

/-- reorder.go:371-396: the nodes `x.processOne s i rel` calls `release · i` on -/
def Topo.targets (s : TopoS) (x : Topo) (i : Nat) (rel : Bool) : List Nat :=
  if i ∈ x.done then [] else
    (if rel = true ∨ i ≤ s.n then s.before.get i else []) ++ (if i ≤ s.n ∧ rel = true then tyTargets s i else [])

theorem Topo.targets_of_done {s : TopoS} {x : Topo} {i : Nat} {rel : Bool} (h : i ∈ x.done) : Topo.targets s x i rel = [] :=
  if_pos h

theorem Topo.mem_targets {s : TopoS} {x : Topo} {i n : Nat} {rel : Bool} :
    n ∈ Topo.targets s x i rel ↔
      i ∉ x.done ∧ ((rel = true ∨ i ≤ s.n) ∧ n ∈ s.before.get i ∨ (i ≤ s.n ∧ rel = true) ∧ Releases s i n) := by
  unfold Topo.targets
  rw [List.mem_ite_nil_left, List.mem_append, List.mem_ite_nil_right, List.mem_ite_nil_right, mem_tyTargets]

theorem Topo.length_targets_le (s : TopoS) (x : Topo) (i : Nat) (rel : Bool) :
    (Topo.targets s x i rel).length ≤ (s.before.get i).length + (s.outOf i).length + (s.recvOf i).length := by
  have hT : (tyTargets s i).length ≤ (s.outOf i).length + (s.recvOf i).length := by
    unfold tyTargets
    rewrite [List.length_append]
    exact Nat.add_le_add (List.length_filterMap_le _ _) (List.length_filterMap_le _ _)
  unfold Topo.targets
  by_cases hd : i ∈ x.done
  · rewrite [if_pos hd]; exact Nat.zero_le _
  · rewrite [if_neg hd, List.length_append, Nat.add_assoc]
    exact Nat.add_le_add (length_ite_nil_le _ _) (Nat.le_trans (length_ite_nil_le _ _) hT)

theorem processOne_released (s : TopoS) (x : Topo) (i : Nat) (rel : Bool) :
    Released s i (Topo.targets s x i rel) (x.mark s i) (x.processOne s i rel) := by
  unfold Topo.processOne Topo.targets Topo.mark
  by_cases hd : i ∈ x.done
  · rewrite [if_pos (List.contains_iff_mem.mpr hd), if_pos hd, if_pos hd, if_pos (Or.inl hd)]
    exact Released.refl
  · rewrite [if_neg (fun hc => hd (List.contains_iff_mem.mp hc)), if_neg hd, if_neg hd]
    by_cases hgt : s.n < i
    · have hle : ¬ i ≤ s.n := Nat.not_le_of_lt hgt
      rewrite [if_pos hgt, if_pos (Or.inr hgt : i ∈ x.done ∨ s.n < i), if_neg (fun hc : i ≤ s.n ∧ rel = true => hle hc.1), List.append_nil]
      cases rel with
      | false => rewrite [if_neg (fun hc : false = true ∨ i ≤ s.n => hc.elim Bool.false_ne_true hle)]; exact Released.refl
      | true => rewrite [if_pos (Or.inl rfl)]; exact releaseNode_released s _ i
    · have hle : i ≤ s.n := Nat.le_of_not_lt hgt
      rewrite [if_neg hgt, if_neg (fun hc : i ∈ x.done ∨ s.n < i => hc.elim hd hgt), if_pos (Or.inr hle)]
      cases rel with
      | false => rewrite [if_neg (fun hc : i ≤ s.n ∧ false = true => Bool.false_ne_true hc.2), List.append_nil]; exact releaseNode_released s _ i
      | true => rewrite [if_pos ⟨hle, rfl⟩]; exact (releaseNode_released s _ i).trans (releaseProvider_released s _ i)

/-- One iteration of `topo.run` (reorder.go:344-396) as a whole: `i` is taken off the queue, or off the list of fixed
    providers when the queue is empty, and processed; `z` is the state after it.  Whether `i` had been processed before
    shows only in `targets`, which is empty then.  The invariants are proved against this description. -/
structure Iter (s : TopoS) (x z : Topo) (i : Nat) (rel : Bool) : Prop where
  src : (x.waits i ∧ rel = true ∧ z.cannotReorder = x.cannotReorder) ∨
    (x.queue = [] ∧ x.cannotReorder = i :: z.cannotReorder ∧ rel = (x.after.get i).isEmpty)
  fuel : z.fuelOut = x.fuelOut
  done : z.done = if i ∈ x.done then x.done else i :: x.done
  out : z.out = if i ∈ x.done ∨ s.n < i then x.out else x.out ++ [i]
  aft : AftDel s i (Topo.targets s x i rel) x z
  waitsUp : ∀ m, z.waits m → x.waits m ∨ (m ∈ Topo.targets s x i rel ∧ (s.n ≤ m ∨ z.after.get m = []))
  waitsDown : ∀ m, x.waits m → z.waits m ∨ m = i
  waitsNew : ∀ m, m ∈ Topo.targets s x i rel → s.n ≤ m ∨ z.after.get m = [] → z.waits m
  load : z.load + 1 ≤ x.load + (Topo.targets s x i rel).length

theorem Pick.pop {x y : Topo} {i : Nat} {rel : Bool} (p : Pick x y.queue y.cannotReorder i rel) :
    (∀ m, y.waits m → x.waits m) ∧ (∀ m, x.waits m → y.waits m ∨ m = i) ∧ y.load + 1 = x.load ∧
    ((x.waits i ∧ rel = true ∧ y.cannotReorder = x.cannotReorder) ∨
      (x.queue = [] ∧ x.cannotReorder = i :: y.cannotReorder ∧ rel = (x.after.get i).isEmpty)) := by
  rcases p with ⟨e, hp, hr, hc⟩ | ⟨hx, hy, hc, hr⟩
  · exact ⟨fun m h => (Topo.waits_cons hp m).mpr (Or.inl h), fun m h => (Topo.waits_cons hp m).mp h,
      (Topo.load_cons hp hc.symm).symm, Or.inl ⟨⟨(e, i), hp.mem_iff.mpr List.mem_cons_self, rfl⟩, hr, hc⟩⟩
  · refine ⟨fun m h => absurd h (Topo.not_waits hy m), fun m h => absurd h (Topo.not_waits hx m), ?_, Or.inr ⟨hx, hc, hr⟩⟩
    unfold Topo.load
    rewrite [hx, hy, hc]
    rfl

theorem Pick.iter {s : TopoS} {x : Topo} {u w : RHeap} {c : List Nat} {i : Nat} {rel : Bool} (p : Pick x (u ++ w) c i rel) :
    Iter s x (Topo.processOne s { x with unblocked := u, weakBlocked := w, cannotReorder := c } i rel) i rel := by
  -- apart from the queues the state `y` after the pop is `x`, by computation
  let y : Topo := { x with unblocked := u, weakBlocked := w, cannotReorder := c }
  show Iter s x (y.processOne s i rel) i rel
  obtain ⟨hsub, hsup, hload, hsrc⟩ := Pick.pop (y := y) p
  have r := processOne_released s y i rel
  exact
    { src := by rewrite [r.cr]; exact hsrc
      fuel := r.fuel, done := r.done, out := r.out, aft := r.aft
      waitsUp := fun m h => ((r.waits m).mp h).imp_left (hsub m)
      waitsDown := fun m h => (hsup m h).imp_left fun h => (r.waits m).mpr (Or.inl h)
      waitsNew := fun m h1 h2 => (r.waits m).mpr (Or.inr ⟨h1, h2⟩)
      load := by rewrite [← hload, Nat.add_right_comm]; exact Nat.succ_le_succ r.load }

section iter
variable {s : TopoS} {x z : Topo} {i : Nat} {rel : Bool} {a b : Nat}

theorem Iter.mem_done (p : Iter s x z i rel) : a ∈ z.done ↔ a = i ∨ a ∈ x.done := by
  rewrite [p.done]
  split
  · exact ⟨Or.inr, fun h => h.elim (fun e => e ▸ ‹i ∈ x.done›) id⟩
  · exact List.mem_cons

theorem Iter.mem_out (p : Iter s x z i rel) : a ∈ z.out ↔ a ∈ x.out ∨ (a = i ∧ i ∉ x.done ∧ i ≤ s.n) := by
  rewrite [p.out]
  split
  · rename_i h
    exact ⟨Or.inl, fun h' => h'.elim id fun h' => (h.elim h'.2.1 (Nat.not_lt_of_le h'.2.2)).elim⟩
  · rename_i h
    rewrite [List.mem_append, List.mem_singleton]
    exact or_congr_right ⟨fun e => ⟨e, fun hd => h (Or.inl hd), Nat.le_of_not_lt fun hg => h (Or.inr hg)⟩, fun e => e.1⟩

end iter

theorem loop_induction {s : TopoS} {P Q : Topo → Prop}
    (step : ∀ {x z i rel}, P x → Iter s x z i rel → P z)
    (idle : ∀ x, P x → x.queue = [] → x.cannotReorder = [] → Q x)
    (stop : ∀ x, P x → Q { x with fuelOut := true }) : ∀ (fuel : Nat) (x : Topo), P x → Q (Topo.loop s fuel x) := by
  intro fuel
  induction fuel with
  | zero => exact stop
  | succ fuel ih =>
    intro x h
    rcases loop_succ s fuel x with ⟨hq, hc, e⟩ | ⟨u, w, c, i, rel, hp, e⟩
    · rewrite [e]; exact idle x h hq hc
    · rewrite [e]; exact ih _ (step h hp.iter)

theorem loop_fuel {s : TopoS} {μ : Topo → Nat} (step : ∀ {x z i rel}, Iter s x z i rel → μ z < μ x)
    (fuel : Nat) (x : Topo) (h : μ x < fuel) : (Topo.loop s fuel x).fuelOut = x.fuelOut := by
  induction fuel generalizing x with
  | zero => exact absurd h (Nat.not_lt_zero _)
  | succ fuel ih =>
    rcases loop_succ s fuel x with ⟨_, _, e⟩ | ⟨u, w, c, i, rel, hp, e⟩
    · rw [e]
    · rewrite [e, ih _ (Nat.lt_of_lt_of_le (step hp.iter) (Nat.le_of_lt_succ h))]; exact hp.iter.fuel

theorem loop_idle (s : TopoS) (fuel : Nat) (x : Topo) (h : (Topo.loop s fuel x).fuelOut = false) :
    (Topo.loop s fuel x).cannotReorder = [] :=
  loop_induction (s := s) (P := fun _ => True) (Q := fun z => z.fuelOut = false → z.cannotReorder = [])
    (fun _ _ => trivial) (fun _ _ _ hc _ => hc) (fun _ _ hf => by cases hf) fuel x trivial h

/-- the init function outputs the type whose pseudo node is `num` -/
def InitReleases (fs : List CP) (g : RGraph) (hasInit : Bool) (num : Nat) : Prop :=
  hasInit = true ∧ ∃ f, fs.find? (·.cls == .initFunc) = some f ∧ ∃ t ∈ noNoType f.out, g.downTypes.lookup t = some num

/-- reorder.go:257-280 -/
structure Started (fs : List CP) (g : RGraph) (hasInit : Bool) (x : Topo) : Prop where
  out : x.out = []
  done : x.done = []
  cr : x.cannotReorder = g.cannotReorder
  after : x.after = (buildNodes g).after
  fuel : x.fuelOut = false
  waits : ∀ m, x.waits m ↔ InitReleases fs g hasInit m
  load : x.load ≤ g.cannotReorder.length + (fs.map (·.out.length)).sum

/-- reorder.go:262-269 -/
theorem pushInit_spec (s : TopoS) (tbl : List (Ty × Nat)) : ∀ (l : List Ty) (x : Topo),
    ∃ h, l.foldl (fun (x : Topo) t => match tbl.lookup t with | some num => x.pushU s num | none => x) x = { x with unblocked := h } ∧
      (∀ m, Topo.waits { x with unblocked := h } m ↔ x.waits m ∨ m ∈ l.filterMap fun t => tbl.lookup t) ∧
      Topo.load { x with unblocked := h } ≤ x.load + l.length := by
  intro l
  induction l with
  | nil => exact fun x => ⟨x.unblocked, rfl, fun _ => (or_iff_left List.not_mem_nil).symm, Nat.le_refl _⟩
  | cons t l ih =>
    intro x
    rewrite [List.foldl_cons]
    cases hl : tbl.lookup t with
    | none =>
      obtain ⟨h, e, hw, hld⟩ := ih x
      exact ⟨h, e, by rewrite [List.filterMap_cons_none (f := fun t => tbl.lookup t) hl]; exact hw, Nat.le_succ_of_le hld⟩
    | some n =>
      obtain ⟨h, e, hw, hld⟩ := ih (x.pushU s n)
      refine ⟨h, e, fun m => (hw m).trans ?_, Nat.le_trans hld ?_⟩
      · rw [Topo.waits_cons (Topo.queue_pushU s x n), List.filterMap_cons_some (f := fun t => tbl.lookup t) hl, List.mem_cons, or_assoc]
      · rewrite [Topo.load_cons (Topo.queue_pushU s x n) rfl, List.length_cons]; exact Nat.le_of_eq (Nat.add_right_comm _ _ _)

theorem Topo.load_init (a w : NMap) (c : List Nat) : Topo.load { after := a, weakAfter := w, cannotReorder := c } = c.length :=
  Nat.zero_add c.length

theorem topoInit_started (fs : List CP) (g : RGraph) (hasInit : Bool) : Started fs g hasInit (topoInit fs g hasInit) := by
  have base : (∀ m, ¬ InitReleases fs g hasInit m) → Started fs g hasInit
      { after := (buildNodes g).after, weakAfter := (buildNodes g).weakAfter, cannotReorder := g.cannotReorder } := fun hP =>
    ⟨rfl, rfl, rfl, rfl, rfl, fun m => ⟨fun h => (Topo.not_waits rfl m h).elim, fun h => (hP m h).elim⟩,
      by rewrite [Topo.load_init]; exact Nat.le_add_right _ _⟩
  unfold topoInit
  dsimp only
  cases hasInit with
  | false => rewrite [if_neg Bool.false_ne_true]; exact base (fun m h => Bool.false_ne_true h.1)
  | true =>
    rewrite [if_pos rfl]
    cases hf : fs.find? (·.cls == .initFunc) with
    | none => exact base (fun m h => by obtain ⟨_, f, hf', _⟩ := h; rewrite [hf] at hf'; cases hf')
    | some f =>
      dsimp only
      obtain ⟨h, e, hw, hld⟩ := pushInit_spec (topoStatic fs g) g.downTypes (noNoType f.out)
        { after := (buildNodes g).after, weakAfter := (buildNodes g).weakAfter, cannotReorder := g.cannotReorder }
      -- not `rw`: the `match` here and the one in `pushInit_spec` are different auxiliary definitions
      refine Eq.mpr (congrArg (Started fs g true) e) ⟨rfl, rfl, rfl, rfl, rfl, fun m => (hw m).trans ?_, Nat.le_trans hld ?_⟩
      · rewrite [or_iff_right (Topo.not_waits rfl m), List.mem_filterMap]
        constructor
        · exact fun hm => ⟨rfl, f, hf, hm⟩
        · rintro ⟨_, f', hf', ht⟩
          rewrite [hf] at hf'; cases hf'; exact ht
      · have h2 : (noNoType f.out).length ≤ f.out.length := List.length_filter_le _ _
        have h3 : f.out.length ≤ (fs.map (·.out.length)).sum :=
          mem_le_sum (List.mem_map.mpr ⟨f, List.mem_of_find?_eq_some hf, rfl⟩)
        rewrite [Topo.load_init]
        exact Nat.add_le_add_left (Nat.le_trans h2 h3) _

end Nject
