import NjectProofs.ReorderGraph
import NjectProofs.ReorderCore
/-
  `topo.run` ends: with the fuel `reorderFuel` gives it, the loop of the transcription reaches the
  state in which both heaps and the list of fixed providers are empty (`fuelOut = false`).

  Measure: the entries waiting in the two heaps and in `cannotReorder`, plus, for every node that has
  not been processed yet, the number of pushes its processing can cause (one per member of its
  `before` set, one per output / received type).  Every iteration takes one entry away; processing a
  node for the first time converts its share of the second part into at most as many new entries.
-/
namespace Nject

/-- pushes the first processing of node `i` can cause -/
def nodeW (s : TopoS) (i : Nat) : Nat := (s.before.get i).length + (s.outOf i).length + (s.recvOf i).length

def pendingW (s : TopoS) (bound : Nat) (done : List Nat) : Nat :=
  ((List.range bound).map fun i => if i ∈ done then 0 else nodeW s i).sum

def work (s : TopoS) (bound : Nat) (x : Topo) : Nat := x.load + pendingW s bound x.done

def Bounded (s : TopoS) (bound : Nat) : Prop := ∀ i, bound ≤ i → nodeW s i = 0

theorem pendingW_cons_le {s : TopoS} {bound : Nat} (hb : Bounded s bound) {done : List Nat} {i : Nat} (hd : i ∉ done) :
    pendingW s bound (i :: done) + nodeW s i ≤ pendingW s bound done := by
  refine sum_map_add_le _ _ (fun j => ?_) i _ _ ?_ ?_
  · by_cases hj : j ∈ done
    · rewrite [if_pos (List.mem_cons_of_mem _ hj)]; exact Nat.zero_le _
    · rewrite [if_neg hj]; split
      · exact Nat.zero_le _
      · exact Nat.le_refl _
  · -- `i` occurs in `range bound`, or its share is nothing
    exact (Nat.lt_or_ge i bound).imp List.mem_range.mpr (hb i)
  · rewrite [if_pos List.mem_cons_self, if_neg hd]; exact Nat.le_of_eq (Nat.zero_add _)

/-- `w` moves from the second summand to the first, and one is taken away -/
theorem lt_of_moved {a a' b b' w : Nat} (ha : a' + 1 ≤ a + w) (hb : b' + w ≤ b) : a' + b' < a + b :=
  calc a' + b' + 1 = a' + 1 + b' := Nat.add_right_comm _ _ _
    _ ≤ a + w + b' := Nat.add_le_add_right ha _
    _ = a + (b' + w) := by rw [Nat.add_assoc, Nat.add_comm w]
    _ ≤ a + b := Nat.add_le_add_left hb _

/-- an iteration takes one entry away and turns the share of a node met for the first time into entries -/
theorem Iter.work_lt {s : TopoS} {bound : Nat} (hb : Bounded s bound) {x z : Topo} {i : Nat} {rel : Bool} (p : Iter s x z i rel) :
    work s bound z < work s bound x := by
  refine lt_of_moved p.load ?_
  rewrite [p.done]
  by_cases hd : i ∈ x.done
  · rewrite [if_pos hd, Topo.targets_of_done hd]; exact Nat.le_refl _
  · rewrite [if_neg hd]
    exact Nat.le_trans (Nat.add_le_add_left (Topo.length_targets_le s x i rel) _) (pendingW_cons_le hb hd)

theorem loop_terminates {s : TopoS} {bound : Nat} (hb : Bounded s bound) :
    ∀ (fuel : Nat) (x : Topo), work s bound x < fuel → (Topo.loop s fuel x).fuelOut = x.fuelOut :=
  loop_fuel (μ := work s bound) fun p => p.work_lt hb

theorem pendingW_le (s : TopoS) (bound M : Nat) (done : List Nat) (hM : ∀ i, nodeW s i ≤ M) : pendingW s bound done ≤ bound * M := by
  refine Nat.le_trans (sum_map_le _ M (fun j => ?_) _) (by rewrite [List.length_range, Nat.mul_comm]; exact Nat.le_refl _)
  split
  · exact Nat.zero_le _
  · exact hM j

theorem getD_field_le (f : CP → List Ty) (hf : f default = []) (funcs : List CP) (i : Nat) :
    (noNoType (f (funcs.getD i default))).length ≤ (funcs.map fun c => (f c).length).sum := by
  refine Nat.le_trans (List.length_filter_le _ _) ?_
  rewrite [List.getD_eq_getElem?_getD]
  rcases Nat.lt_or_ge i funcs.length with hi | hi
  · rewrite [List.getElem?_eq_getElem hi, Option.getD_some]
    exact mem_le_sum (List.mem_map.mpr ⟨funcs[i], List.getElem_mem hi, rfl⟩)
  · rewrite [List.getElem?_eq_none hi, Option.getD_none, hf]; exact Nat.zero_le _

theorem topoStatic_bounded (funcs : List CP) (g : RGraph) : Bounded (topoStatic funcs g) (keyBound g funcs.length) := by
  intro i hi
  unfold keyBound at hi
  obtain ⟨hn, hk⟩ := le_foldl_max (g.strong.map (·.2)) funcs.length
  unfold nodeW topoStatic
  simp only []
  have hb : (buildNodes g).before.get i = [] := by
    cases hb : (buildNodes g).before.get i with
    | nil => rfl
    | cons j rest =>
      exfalso
      have hm := ((buildNodes_dual g).2.1 j i).mp (by rewrite [hb]; simp)
      exact Nat.not_le_of_lt hi (hk i (List.mem_map.mpr ⟨(j, i), hm, rfl⟩))
  have hd : funcs.getD i default = default := by
    have : funcs.length ≤ i := Nat.le_of_lt (Nat.lt_of_le_of_lt hn hi)
    simp [List.getD, List.getElem?_eq_none this]
  rewrite [hb, hd]
  rfl

/-- the entries waiting at the start (`l`) and the pushes still to come (`p`) stay below the fuel -/
theorem load_add_pending_lt {l c o n p b : Nat} (hl : l ≤ c + o) (hc : c ≤ n) (hp : p ≤ b) : l + p < b + o + n + 2 :=
  have hc' : c + o ≤ o + n := Nat.add_comm c o ▸ Nat.add_le_add_left hc o
  calc l + p = p + l := Nat.add_comm l p
    _ ≤ b + (o + n) := Nat.add_le_add hp (Nat.le_trans hl hc')
    _ = b + o + n := (Nat.add_assoc b o n).symm
    _ < b + o + n + 2 := Nat.lt_add_of_pos_right Nat.two_pos

theorem topoRun_ends {fs : List CP} {g : RGraph} (hs : SOK (topoStatic fs g) g.cannotReorder) (hasInit : Bool) :
    (Topo.loop (topoStatic fs g) (reorderFuel g fs) (topoInit fs g hasInit)).fuelOut = false := by
  have hcr : g.cannotReorder.length ≤ fs.length := by
    rewrite [hs.nrEq]
    exact Nat.le_trans (List.length_filter_le _ _) (Nat.le_of_eq List.length_range)
  have st := topoInit_started fs g hasInit
  have hq := st.load
  have hM : ∀ i, nodeW (topoStatic fs g) i ≤ g.strong.length + (fs.map (·.out.length)).sum + (fs.map (·.recv.length)).sum := fun i =>
    Nat.add_le_add (Nat.add_le_add ((buildNodes_dual g).2.2 i) (getD_field_le CP.out rfl fs i)) (getD_field_le CP.recv rfl fs i)
  have hp := pendingW_le (topoStatic fs g) (keyBound g fs.length) _ [] hM
  rewrite [loop_terminates (topoStatic_bounded fs g)]
  · exact st.fuel
  · unfold work reorderFuel
    rewrite [st.done]
    exact load_add_pending_lt hq hcr (Nat.le_trans hp (Nat.mul_le_mul_left _ (Nat.le_add_right _ 1)))

end Nject
