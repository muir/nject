import Nject.Conc
import NjectProofs.ListFacts
/-
  Invariants of the cacher, Once and debug-lock machines, for every number of threads and every schedule.
  A step of `t` changes the shared fields and the phase of `t` alone: `∀ t, L shared t (th t)` needs `L` of
  the mover and stability of `L` for the others (`COK`, `OOK`, `LOK`, one stability lemma each).
-/
namespace Nject.Conc

/-- `setTh`, `setOTh` and `setL` all unfold to this update. -/
theorem forall_upd {Φ : Type} {L L' : Nat → Φ → Prop} {th : Nat → Φ} {t : Nat} {p : Φ}
    (h : ∀ t', L t' (th t')) (hmove : L' t p) (hstable : ∀ t' φ, t' ≠ t → L t' φ → L' t' φ) :
    ∀ t', L' t' (if t' = t then p else th t') := by
  intro t'
  by_cases ht : t' = t
  · rewrite [if_pos ht, ht]; exact hmove
  · rewrite [if_neg ht]; exact hstable t' _ ht (h t')

theorem not_owner {owner : Option Nat} {t t' : Nat} (hne : t' ≠ t) (h : owner = some t ∨ owner = none) :
    owner ≠ some t' := by
  intro he
  rcases h with h | h <;> rewrite [h] at he
  · exact hne (Option.some.inj he).symm
  · cases he

variable {K V : Type}

def holds (s : CState K V) (t : Nat) : Prop :=
  (∃ k, s.th t = .locked k) ∨ (∃ k v, s.th t = .called k v)

theorem setTh_same (th : Nat → Phase K V) (t : Nat) (p : Phase K V) : setTh th t p t = p := by
  simp [setTh]

theorem setTh_other (th : Nat → Phase K V) (t t' : Nat) (p : Phase K V) (h : t' ≠ t) : setTh th t p t' = th t' := by
  simp [setTh, h]

def COK (f : K → Nat → V) (lock : Option Nat) (calls : List (K × Nat)) (t : Nat) : Phase K V → Prop
  | .locked _ => lock = some t
  | .called k v => lock = some t ∧ ∃ i, (k, i) ∈ calls ∧ v = f k i
  | .done k v => ∃ i, (k, i) ∈ calls ∧ v = f k i
  | _ => True

structure CacherInv (f : K → Nat → V) (s : CState K V) : Prop where
  th : ∀ t, COK f s.lock s.calls t (s.th t)
  cacheOK : ∀ k v, (k, v) ∈ s.cache → ∃ i, (k, i) ∈ s.calls ∧ v = f k i
  callsNodup : (s.calls.map (·.1)).Nodup
  pending : ∀ k i, (k, i) ∈ s.calls → (∃ v, (k, v) ∈ s.cache) ∨ ∃ t, s.th t = .called k (f k i)

/-- while `t` or nobody owns the lock no other thread is between Lock and Unlock: the others only need
    the call log to grow -/
theorem COK.stable {f : K → Nat → V} {lock lock' : Option Nat} {calls calls' : List (K × Nat)} {t : Nat}
    (hl : lock = some t ∨ lock = none) (hc : ∀ x ∈ calls, x ∈ calls') (t' : Nat) (φ : Phase K V)
    (hne : t' ≠ t) (h : COK f lock calls t' φ) : COK f lock' calls' t' φ := by
  cases φ with
  | locked _ => exact absurd h (not_owner hne hl)
  | called _ _ => exact absurd h.1 (not_owner hne hl)
  | done _ _ => exact h.imp fun _ hi => ⟨hc _ hi.1, hi.2⟩
  | _ => trivial

theorem CacherInv.lock_of_holds {f : K → Nat → V} {s : CState K V} (hs : CacherInv f s) {t : Nat} (h : holds s t) :
    s.lock = some t := by
  have ht := hs.th t
  rcases h with ⟨k, hk⟩ | ⟨k, v, hk⟩ <;> rewrite [hk] at ht
  · exact ht
  · exact ht.1

theorem CacherInv.doneOK {f : K → Nat → V} {s : CState K V} (hs : CacherInv f s) {t : Nat} {k : K} {v : V}
    (h : s.th t = .done k v) : ∃ i, (k, i) ∈ s.calls ∧ v = f k i := by
  have ht := hs.th t
  rewrite [h] at ht; exact ht

theorem init_inv (f : K → Nat → V) : CacherInv f (CState.init : CState K V) :=
  { th := fun _ => trivial
    cacheOK := fun _ _ h => nomatch h
    callsNodup := List.nodup_nil
    pending := fun _ _ h => nomatch h }

theorem step_inv [DecidableEq K] (f : K → Nat → V) (s s' : CState K V) (t : Nat) (k : K) (hs : CacherInv f s)
    (h : cstep f s t k = some s') : CacherInv f s' := by
  have hme := hs.th t
  have keep : (∀ k v, s.th t ≠ .called k v) → ∀ p k i, (k, i) ∈ s.calls →
      (∃ v, (k, v) ∈ s.cache) ∨ ∃ t', setTh s.th t p t' = .called k (f k i) := by
    intro hnc p k i hm
    refine (hs.pending k i hm).imp_right fun ⟨t', ht'⟩ => ⟨t', ?_⟩
    rewrite [setTh_other _ _ _ _ fun he => hnc _ _ (he ▸ ht')]; exact ht'
  revert h
  -- in the order of `cstep`: 1 idle, 2–3 want (lock free / taken), 4–5 locked (hit / miss), 6 called, 7 done
  fun_cases cstep f s t k with
  | case1 hp | case7 _ _ hp =>
    intro h; cases h
    exact ⟨forall_upd hs.th trivial fun _ _ _ h => h, hs.cacheOK, hs.callsNodup, keep (by rewrite [hp]; nofun) _⟩
  | case2 k' hp hl =>
    intro h; cases h
    exact ⟨forall_upd hs.th rfl (COK.stable (.inr hl) fun _ h => h), hs.cacheOK, hs.callsNodup,
      keep (by rewrite [hp]; nofun) _⟩
  | case3 => nofun
  | case4 k' hp v hlk =>
    rewrite [hp] at hme; intro h; cases h
    exact ⟨forall_upd hs.th (hs.cacheOK k' v (mem_of_lookup hlk)) (COK.stable (.inl hme) fun _ h => h), hs.cacheOK,
      hs.callsNodup, keep (by rewrite [hp]; nofun) _⟩
  | case5 k' hp hlk =>
    rewrite [hp] at hme; intro h; cases h
    have hme : s.lock = some t := hme
    -- a miss under the lock: the key was never called, else it is cached or its caller holds the lock
    have hfresh : k' ∉ s.calls.map (·.1) := by
      intro hm
      obtain ⟨⟨k0, i⟩, hin, hk⟩ := List.mem_map.mp hm
      cases hk
      rcases hs.pending _ i hin with ⟨v, hv⟩ | ⟨t', ht'⟩
      · exact not_mem_of_lookup_none hlk v hv
      · have h' := hs.th t'
        rewrite [ht'] at h'
        have : t' = t := Option.some.inj (h'.1.symm.trans hme)
        rewrite [this, hp] at ht'; cases ht'
    refine ⟨forall_upd hs.th ⟨hme, _, List.mem_cons_self, rfl⟩
        (COK.stable (.inl hme) fun _ h => List.mem_cons_of_mem _ h),
      fun k v hm => (hs.cacheOK k v hm).imp fun _ hi => ⟨List.mem_cons_of_mem _ hi.1, hi.2⟩,
      List.nodup_cons.mpr ⟨hfresh, hs.callsNodup⟩, ?_⟩
    intro k i hm
    rcases List.mem_cons.mp hm with he | hm
    · cases he; exact .inr ⟨t, setTh_same _ _ _⟩
    · exact keep (by rewrite [hp]; nofun) _ k i hm
  | case6 k' v hp =>
    rewrite [hp] at hme; intro h; cases h
    obtain ⟨hlock, hcall⟩ := hme
    refine ⟨forall_upd hs.th hcall (COK.stable (.inl hlock) fun _ h => h),
      fun k v' hm => (List.mem_cons.mp hm).elim (fun he => by cases he; exact hcall) (hs.cacheOK k v'),
      hs.callsNodup, ?_⟩
    intro k i hm
    rcases hs.pending k i hm with ⟨v', hv'⟩ | ⟨t', ht'⟩
    · exact .inl ⟨v', List.mem_cons_of_mem _ hv'⟩
    · by_cases ht : t' = t
      · rewrite [ht, hp] at ht'; cases ht'
        exact .inl ⟨_, List.mem_cons_self⟩
      · exact .inr ⟨t', (setTh_other _ _ _ _ ht).trans ht'⟩
theorem run_inv [DecidableEq K] (f : K → Nat → V) (sched : List (Nat × K)) (s : CState K V) (h : CacherInv f s) : CacherInv f (crun f sched s) := by
  fun_induction crun f sched s with
  | case1 => exact h
  | case2 t k rest s s' hst ih => exact ih (step_inv f s s' t k h hst)
  | case3 t k rest s hst ih => exact ih h

theorem setOTh_same (th : Nat → OPhase V) (t : Nat) (p : OPhase V) : setOTh th t p t = p := by simp [setOTh]
theorem setOTh_other (th : Nat → OPhase V) (t t' : Nat) (p : OPhase V) (h : t' ≠ t) : setOTh th t p t' = th t' := by
  simp [setOTh, h]

def OOK (body : Nat → V) (runner : Option Nat) (finished : Bool) (t : Nat) : OPhase V → Prop
  | .entered => runner = some t
  | .done v => finished = true ∧ v = body 0
  | _ => True

structure OInv (body : Nat → V) (s : OState V) : Prop where
  th : ∀ t, OOK body s.runner s.finished t (s.th t)
  fin : s.finished = true → s.out = some (body 0) ∧ s.nruns = 1 ∧ s.runner = none
  notFin : s.finished = false → s.nruns = 0

theorem OOK.stable {body : Nat → V} {runner runner' : Option Nat} {finished finished' : Bool} {t : Nat}
    (hr : runner = some t ∨ runner = none) (hf : finished = true → finished' = true) (t' : Nat)
    (φ : OPhase V) (hne : t' ≠ t) (h : OOK body runner finished t' φ) : OOK body runner' finished' t' φ := by
  cases φ with
  | entered => exact absurd h (not_owner hne hr)
  | done _ => exact ⟨hf h.1, h.2⟩
  | _ => trivial

theorem OInv.doneOK {body : Nat → V} {s : OState V} (hs : OInv body s) {t : Nat} {v : V}
    (h : s.th t = .done v) : s.finished = true ∧ v = body 0 := by
  have ht := hs.th t
  rewrite [h] at ht; exact ht

theorem oinit_inv (body : Nat → V) : OInv body (OState.init : OState V) :=
  { th := fun _ => trivial
    fin := nofun
    notFin := fun _ => rfl }

theorem ostep_inv (body : Nat → V) (dflt : V) (s s' : OState V) (t : Nat) (hs : OInv body s)
    (h : ostep body dflt s t = some s') : OInv body s' := by
  have hme := hs.th t
  have ret : s.finished = true → OInv body { s with th := setOTh s.th t (.done (s.out.getD dflt)) } :=
    fun hf => ⟨forall_upd hs.th ⟨hf, by rw [(hs.fin hf).1]; rfl⟩ fun _ _ _ h => h, hs.fin, hs.notFin⟩
  revert h
  -- in the order of `ostep`: 1–3 idle (finished / becomes the runner / waits), 4 entered, 5–6 waiting (finished / not), 7 done
  fun_cases ostep body dflt s t with
  | case1 _ hf | case5 _ hf => intro h; cases h; exact ret hf
  | case2 _ hf hr =>
    intro h; cases h
    have hf := Bool.eq_false_iff.mpr hf
    exact ⟨forall_upd hs.th rfl (OOK.stable (.inr hr) id), (fun h => nomatch hf.symm.trans h), fun _ => hs.notFin hf⟩
  | case3 | case7 =>
    intro h; cases h
    exact ⟨forall_upd hs.th trivial fun _ _ _ h => h, hs.fin, hs.notFin⟩
  | case4 hp =>
    rewrite [hp] at hme; intro h; cases h
    have hme : s.runner = some t := hme
    -- the runner is inside the first and only execution
    have hnf : s.finished = false := by
      cases hf : s.finished with
      | false => rfl
      | true => have := (hs.fin hf).2.2; rewrite [hme] at this; cases this
    have hn0 := hs.notFin hnf
    exact ⟨forall_upd hs.th ⟨rfl, by rw [hn0]⟩ (OOK.stable (.inl hme) fun _ => rfl),
      fun _ => ⟨by rw [hn0], by rw [hn0], rfl⟩, nofun⟩
  | case6 => nofun

theorem orun_inv (body : Nat → V) (dflt : V) (sched : List Nat) (s : OState V) (h : OInv body s) : OInv body (orun body dflt sched s) := by
  fun_induction orun body dflt sched s with
  | case1 => exact h
  | case2 t rest s s' hst ih => exact ih (ostep_inv body dflt s s' t h hst)
  | case3 t rest s hst ih => exact ih h

theorem setL_same (th : Nat → LPhase) (t : Nat) (p : LPhase) : setL th t p t = p := by simp [setL]
theorem setL_other (th : Nat → LPhase) (t t' : Nat) (p : LPhase) (h : t' ≠ t) : setL th t p t' = th t' := by simp [setL, h]

def LOK (writer : Option Nat) (t : Nat) : LPhase → Prop
  | .capturing => writer = some t
  | .stuck => False
  | _ => writer ≠ some t

structure LInv (s : LState) : Prop where
  th : ∀ t, LOK s.writer t (s.th t)
  dbg : s.debug = true → s.writer ≠ none

theorem LOK.stable {writer writer' : Option Nat} {t : Nat} (hw : writer = some t ∨ writer = none)
    (hw' : writer' = some t ∨ writer' = none) (t' : Nat) (φ : LPhase) (hne : t' ≠ t)
    (h : LOK writer t' φ) : LOK writer' t' φ := by
  cases φ with
  | idle => exact not_owner hne hw'
  | reading => exact not_owner hne hw'
  | capturing => exact absurd h (not_owner hne hw)
  | stuck => exact h

theorem LInv.noStuck {s : LState} (hs : LInv s) (t : Nat) : s.th t ≠ .stuck := by
  intro h
  have ht := hs.th t
  rewrite [h] at ht; exact ht

theorem LInv.capturing {s : LState} (hs : LInv s) {t : Nat} (hw : s.writer = some t) : s.th t = .capturing := by
  have ht := hs.th t
  cases hp : s.th t with
  | capturing => rfl
  | stuck => exact absurd hp (hs.noStuck t)
  | _ => rewrite [hp] at ht; exact absurd hw ht

theorem linit_inv : LInv LState.init :=
  { th := fun t (he : (none : Option Nat) = some t) => nomatch he
    dbg := nofun }

theorem lstep_inv (s s' : LState) (t : Nat) (c : Bool) (hs : LInv s) (h : lstep s t c = some s') : LInv s' := by
  have hme := hs.th t
  revert h
  -- in the order of `lstep`: 1–3 a capture starts (flag found set / granted / blocked), 4–5 a Bind starts (granted / blocked),
  -- 6 a Bind ends, 7 a capture ends, 8 stuck
  fun_cases lstep s t c with
  | case1 _ _ hfree hd =>
    -- the flag cannot be set: nobody holds the write lock
    exact absurd (Option.isNone_iff_eq_none.mp (Bool.and_eq_true_iff.mp hfree).1) (hs.dbg hd)
  | case2 hp _ hfree _ =>
    intro h; cases h
    have hw : s.writer = none := Option.isNone_iff_eq_none.mp (Bool.and_eq_true_iff.mp hfree).1
    exact ⟨forall_upd hs.th rfl (LOK.stable (.inr hw) (.inl rfl)), fun _ => nofun⟩
  | case3 | case5 => nofun
  | case4 hp | case6 hp =>
    rewrite [hp] at hme; intro h; cases h
    exact ⟨forall_upd hs.th hme fun _ _ _ h => h, hs.dbg⟩
  | case7 hp =>
    rewrite [hp] at hme; intro h; cases h
    exact ⟨forall_upd hs.th nofun (LOK.stable (.inl hme) (.inr rfl)), nofun⟩
  | case8 hp => rewrite [hp] at hme; exact hme.elim

theorem lrun_inv (sched : List (Nat × Bool)) (s : LState) (h : LInv s) : LInv (lrun sched s) := by
  fun_induction lrun sched s with
  | case1 => exact h
  | case2 t c rest s s' hst ih => exact ih (lstep_inv s s' t c h hst)
  | case3 t c rest s hst ih => exact ih h

end Nject.Conc
