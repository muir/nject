import NjectProofs.ChainLemmas
/-
  The keep-closure of `proposeEliminations` (include.go:509-583).  Its work list is used up within the fuel the model gives
  it (measure: entries on the list + what the providers not yet kept can add), so the model's answer is that of the loop
  that runs until the list is empty; and the result contains its seeds and, with every kept provider, the source chosen
  for each of its requested types (the nearest one that can still be included).  `proposeEliminations` proposes the Shun'd
  providers and those outside the closure of both directions (`proposeEliminations_eq`).
-/
namespace Nject

/-- how many entries provider `j` can add to the work list when it is first kept -/
def kcW (ch : Chain) (down : Bool) (j : Nat) : Nat :=
  (if down then (ch.get j).usesIn ++ (ch.get j).usesByp else (ch.get j).usesRecv).length

def kcMeasure (ch : Chain) (down : Bool) (toKeep keep : List Nat) : Nat :=
  toKeep.length + ((List.range ch.length).map fun j => if keep.contains j then 0 else kcW ch down j).sum

/-- the sources the closure adds for provider `i`: per requested type, the nearest source that can still be included -/
def kcNext (ch : Chain) (down : Bool) (i : Nat) : List Nat :=
  (if down then (ch.get i).usesIn ++ (ch.get i).usesByp else (ch.get i).usesRecv).filterMap fun e =>
    if down then (e.2.filter fun d => !(ch.get d).cannot && !(ch.get d).excluded).getLast?
    else (e.2.filter fun d => !(ch.get d).cannot && !(ch.get d).excluded).head?

theorem kcMeasure_skip (ch : Chain) (down : Bool) (i : Nat) (toKeep keep : List Nat) :
    kcMeasure ch down toKeep keep + 1 = kcMeasure ch down (i :: toKeep) keep := by
  unfold kcMeasure
  rewrite [List.length_cons]
  exact Nat.add_right_comm _ _ _

/-- provider `i` is kept: what is appended is at most what it could add, and it no longer counts -/
theorem kcMeasure_keep (ch : Chain) (down : Bool) (i : Nat) (toKeep keep : List Nat) (p : Nat → Bool)
    (hk : keep.contains i = false) :
    kcMeasure ch down (toKeep ++ (kcNext ch down i).filter p) (i :: keep) + 1 ≤ kcMeasure ch down (i :: toKeep) keep := by
  have hn : ((kcNext ch down i).filter p).length ≤ kcW ch down i :=
    Nat.le_trans (List.length_filter_le p _) (by unfold kcNext kcW; exact List.length_filterMap_le _ _)
  have hs : ((List.range ch.length).map fun j => if (i :: keep).contains j then 0 else kcW ch down j).sum + kcW ch down i
      ≤ ((List.range ch.length).map fun j => if keep.contains j then 0 else kcW ch down j).sum := by
    refine sum_map_add_le _ _ (fun j => ?_) i _ _ ?_ ?_
    · rewrite [List.contains_cons]; cases keep.contains j <;> cases (j == i) <;> simp
    · -- `i` is a position of the chain, or has nothing to add
      refine (Nat.lt_or_ge i ch.length).imp List.mem_range.mpr fun hge => ?_
      unfold kcW; rewrite [Chain.get_of_le ch hge]; cases down <;> rfl
    · simp only [List.contains_cons, BEq.rfl, Bool.true_or, if_true, hk, Bool.false_eq_true, if_false]; exact Nat.le_of_eq (Nat.zero_add _)
  unfold kcMeasure
  rewrite [List.length_append, List.length_cons]
  omega

theorem keepClosure_step_eq (ch : Chain) (down : Bool) (fuel i : Nat) (toKeep keep : List Nat) (hk : keep.contains i = false) :
    keepClosure ch down (fuel + 1) (i :: toKeep) keep
      = keepClosure ch down fuel (toKeep ++ (kcNext ch down i).filter fun k => !(i :: keep).contains k) (i :: keep) := by
  simp only [keepClosure, hk, Bool.false_eq_true, if_false]
  rfl

theorem keepClosure_succ (ch : Chain) (down : Bool) (fuel : Nat) (toKeep keep : List Nat)
    (h : kcMeasure ch down toKeep keep ≤ fuel) :
    keepClosure ch down (fuel + 1) toKeep keep = keepClosure ch down fuel toKeep keep := by
  fun_induction keepClosure ch down fuel toKeep keep with
  | case1 toKeep keep =>
    cases toKeep with
    | nil => rfl
    | cons i toKeep => rewrite [← kcMeasure_skip] at h; exact absurd h (Nat.not_succ_le_zero _)
  | case2 => rfl
  | case3 fuel i toKeep keep hk ih =>
    rewrite [← kcMeasure_skip] at h
    rewrite [keepClosure, if_pos hk]
    exact ih (Nat.le_of_succ_le_succ h)
  | case4 fuel i toKeep keep hk fm srcs next ih =>
    have hk' : keep.contains i = false := Bool.eq_false_iff.mpr hk
    rewrite [keepClosure_step_eq ch down (fuel + 1) i toKeep keep hk']
    exact ih (Nat.le_of_succ_le_succ (Nat.le_trans (kcMeasure_keep ch down i toKeep keep _ hk') h))

theorem kcMeasure_start_le (ch : Chain) (down : Bool) (seeds : List Nat) (hs : seeds.length ≤ ch.length) :
    kcMeasure ch down seeds [] ≤ ch.length + (ch.map fun f => (f.usesIn ++ f.usesByp).length + f.usesRecv.length).sum := by
  unfold kcMeasure
  rewrite [← Chain.map_range_get (fun f => (f.usesIn ++ f.usesByp).length + f.usesRecv.length) ch]
  refine Nat.add_le_add hs (sum_map_mono (fun j => ?_) _)
  show kcW ch down j ≤ _
  unfold kcW
  cases down
  · exact Nat.le_add_left _ _
  · exact Nat.le_add_right _ _

/-- the invariant of the work-list loop: what a kept provider asks for is kept or waiting -/
def KInv (ch : Chain) (down : Bool) (toKeep keep : List Nat) : Prop :=
  ∀ i ∈ keep, ∀ k ∈ kcNext ch down i, k ∈ keep ∨ k ∈ toKeep

theorem keepClosure_closed (ch : Chain) (down : Bool) (fuel : Nat) (toKeep keep : List Nat)
    (hm : kcMeasure ch down toKeep keep ≤ fuel) (hinv : KInv ch down toKeep keep) :
    (∀ i, i ∈ keep ∨ i ∈ toKeep → i ∈ keepClosure ch down fuel toKeep keep) ∧
    (∀ i ∈ keepClosure ch down fuel toKeep keep, ∀ k ∈ kcNext ch down i, k ∈ keepClosure ch down fuel toKeep keep) := by
  fun_induction keepClosure ch down fuel toKeep keep with
  | case1 toKeep keep =>
    cases toKeep with
    | nil => exact ⟨fun i hi => hi.resolve_right List.not_mem_nil, fun i hi k hk => (hinv i hi k hk).resolve_right List.not_mem_nil⟩
    | cons i toKeep => rewrite [← kcMeasure_skip] at hm; exact absurd hm (Nat.not_succ_le_zero _)
  | case2 fuel keep _ =>
    exact ⟨fun i hi => hi.resolve_right List.not_mem_nil, fun i hi k hk => (hinv i hi k hk).resolve_right List.not_mem_nil⟩
  | case3 fuel i toKeep keep hk ih =>
    rewrite [← kcMeasure_skip] at hm
    have hik : i ∈ keep := List.contains_iff_mem.mp hk
    -- `i` is kept already: nothing is lost when it leaves the list
    have sub : ∀ k, k ∈ keep ∨ k ∈ i :: toKeep → k ∈ keep ∨ k ∈ toKeep := fun k h =>
      h.elim Or.inl fun h => (List.mem_cons.mp h).imp_left fun (e : k = i) => e ▸ hik
    obtain ⟨r1, r2⟩ := ih (Nat.le_of_succ_le_succ hm) fun j hj k hkk => sub k (hinv j hj k hkk)
    exact ⟨fun j hj => r1 j (sub j hj), r2⟩
  | case4 fuel i toKeep keep hk fm srcs next ih =>
    have hk' : keep.contains i = false := Bool.eq_false_iff.mpr hk
    -- `i` moves from the list to the kept ones
    have sub : ∀ k, k ∈ keep ∨ k ∈ i :: toKeep →
        k ∈ i :: keep ∨ k ∈ toKeep ++ next.filter fun k => !(i :: keep).contains k := fun k h =>
      h.elim (fun h => Or.inl (List.mem_cons_of_mem _ h)) fun h =>
        (List.mem_cons.mp h).imp (fun e => List.mem_cons.mpr (Or.inl e)) (List.mem_append_left _)
    obtain ⟨r1, r2⟩ := ih (Nat.le_of_succ_le_succ (Nat.le_trans (kcMeasure_keep ch down i toKeep keep _ hk') hm)) fun j hj k hkk => by
      rcases List.mem_cons.mp hj with e | e
      · -- what `i` asks for is kept already or put on the list now
        rewrite [e] at hkk
        cases hin : (i :: keep).contains k with
        | true => exact Or.inl (List.contains_iff_mem.mp hin)
        | false => exact Or.inr (List.mem_append_right _ (List.mem_filter.mpr ⟨hkk, by rewrite [hin]; rfl⟩))
      · exact sub k (hinv j e k hkk)
    exact ⟨fun j hj => r1 j (sub j hj), r2⟩

/-- the seeds of `proposeEliminations` -/
def keepSeeds (ch : Chain) : List Nat :=
  (List.range ch.length).filter fun i =>
    !(ch.get i).excluded && ((ch.get i).c.required || (ch.get i).c.desired || ((ch.get i).wanted && !(ch.get i).wantedInCluster))

def keepFuel (ch : Chain) : Nat :=
  ch.length + (ch.map fun f => (f.usesIn ++ f.usesByp).length + f.usesRecv.length).sum + 8

theorem proposeEliminations_eq (ch : Chain) :
    proposeEliminations ch =
      ((List.range ch.length).filter fun i => (ch.get i).c.shun)
      ++ ((List.range ch.length).filter fun i =>
          !(keepClosure ch true (keepFuel ch) (keepSeeds ch) [] ++ keepClosure ch false (keepFuel ch) (keepSeeds ch) []).contains i
          && !(ch.get i).c.shun) := rfl

/-- **the keep-closure contains its seeds and is closed under "nearest includable source"**, in both directions -/
theorem C03_kept_is_closed (ch : Chain) (down : Bool) :
    (∀ s ∈ keepSeeds ch, s ∈ keepClosure ch down (keepFuel ch) (keepSeeds ch) []) ∧
    (∀ j ∈ keepClosure ch down (keepFuel ch) (keepSeeds ch) [], ∀ k ∈ kcNext ch down j,
      k ∈ keepClosure ch down (keepFuel ch) (keepSeeds ch) []) := by
  have hs : (keepSeeds ch).length ≤ ch.length :=
    Nat.le_trans (List.length_filter_le _ (List.range ch.length)) (Nat.le_of_eq List.length_range)
  have hm := kcMeasure_start_le ch down (keepSeeds ch) hs
  obtain ⟨r1, r2⟩ := keepClosure_closed ch down (keepFuel ch) (keepSeeds ch) [] (Nat.le_trans hm (Nat.le_add_right _ 8))
    (fun i hi => absurd hi List.not_mem_nil)
  exact ⟨fun s hs => r1 s (Or.inr hs), r2⟩

/-- **what is proposed for elimination**: a provider that is not Shun'd is proposed only if it is outside the keep-closure
    of both directions -/
theorem C03_proposed_is_shunned_or_not_kept (ch : Chain) (i : Nat) (hi : i ∈ proposeEliminations ch) :
    (ch.get i).c.shun = true ∨
    (i ∉ keepClosure ch true (keepFuel ch) (keepSeeds ch) [] ∧ i ∉ keepClosure ch false (keepFuel ch) (keepSeeds ch) []) := by
  rewrite [proposeEliminations_eq] at hi
  rcases List.mem_append.mp hi with h | h
  · exact Or.inl (List.mem_filter.mp h).2
  · right
    have := (List.mem_filter.mp h).2
    simp only [Bool.and_eq_true, Bool.not_eq_true'] at this
    have hn := mt List.contains_iff_mem.mpr (Bool.eq_false_iff.mp this.1)
    exact ⟨fun hm => hn (List.mem_append_left _ hm), fun hm => hn (List.mem_append_right _ hm)⟩

end Nject
