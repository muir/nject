import Nject.WF
import NjectProofs.ListFacts
/-
  Facts about the reference semantics alone: `callFn` and `specNodes` by cases, stated once, and the
  frame of what Spec sends up (only types that something at or below returns).
-/
namespace Nject

theorem callFn_spec (b : Beh) (id : Nat) (memo : Bool) (args : List Val) (st : St) :
    (∃ outs, ((id, args), outs) ∈ st.cache ∧ callFn b id memo args st = (outs, st)) ∨
    ∃ cache, (cache = st.cache ∨ cache = ((id, args), b.inj id (st.count id) args) :: st.cache) ∧
      callFn b id memo args st =
        (b.inj id (st.count id) args, ⟨st.trace ++ [.call id args (b.inj id (st.count id) args)], cache⟩) := by
  unfold callFn
  cases memo with
  | false => exact .inr ⟨_, .inl rfl, rfl⟩
  | true =>
    cases hl : st.cache.lookup (id, args) with
    | some outs => exact .inl ⟨outs, mem_of_lookup hl, rfl⟩
    | none => exact .inr ⟨_, .inr rfl, rfl⟩

theorem callFn_plain (b : Beh) (id : Nat) (args : List Val) (st : St) :
    callFn b id false args st =
      (b.inj id (st.count id) args, st.push (.call id args (b.inj id (st.count id) args))) := rfl

section
variable {b : Beh} {errTy : Ty} {fin n : Node} {rest : List Node}

theorem specNodes_wrapper (hk : n.kind = .wrapper) (down : Env) (st : St) :
    specNodes b errTy fin (n :: rest) down st =
      specTree n (specNodes b errTy fin rest) down (b.wrap n.id (st.count n.id) (n.ins.map down.rd)) Env.empty
        (st.push (.wenter n.id (n.ins.map down.rd))) := by
  rewrite [specNodes]; simp only [hk]

theorem specNodes_fallible (hk : n.kind = .fallible) {down : Env} {st : St} {r : List Val × St}
    (hr : callFn b n.id n.memo (n.ins.map down.rd) st = r) :
    specNodes b errTy fin (n :: rest) down st =
      if isErr (r.1.getD n.errIdx (zeroV errTy)) = true then
        (Env.empty.set1 errTy (r.1.getD n.errIdx (zeroV errTy)), r.2)
      else specNodes b errTy fin rest (down.set n.outs (r.1.eraseIdx n.errIdx)) r.2 := by
  subst hr; rewrite [specNodes]; simp only [hk]

theorem specNodes_plain (hw : n.kind ≠ .wrapper) (hf : n.kind ≠ .fallible) (down : Env) (st : St) :
    specNodes b errTy fin (n :: rest) down st =
      specNodes b errTy fin rest (down.set n.outs (callFn b n.id n.memo (n.ins.map down.rd) st).1)
        (callFn b n.id n.memo (n.ins.map down.rd) st).2 := by
  rewrite [specNodes]
  cases hk : n.kind with
  | wrapper => exact absurd hk hw
  | fallible => exact absurd hk hf
  | _ => rfl

end

theorem set_frame (t : Ty) (ts : List Ty) (xs : List Val) (e : Env) (h : t ∉ ts) : (e.set ts xs) t = e t := by
  induction ts generalizing xs e with
  | nil => rfl
  | cons t0 ts ih =>
    cases xs with
    | nil => rfl
    | cons x xs =>
      rewrite [Env.set, ih xs _ fun hm => h (List.mem_cons_of_mem _ hm)]
      exact if_neg fun heq : t = t0 => h (heq ▸ List.mem_cons_self)

theorem specTree_frame (n : Node) (next : Env → St → Env × St) (down : Env) (t : Ty)
    (hnext : ∀ d s, (next d s).1 t = none) (hr : t ∉ n.rets)
    (w : WStep) (last : Env) (st : St) (hl : last t = none) : (specTree n next down w last st).1 t = none := by
  induction w generalizing last st with
  | ret outs => rewrite [specTree]; exact (set_frame t n.rets outs last hr).trans hl
  | call args k ih =>
    rewrite [specTree]
    refine ih _ _ _ ?_
    split
    · exact hl
    · exact hnext _ _

theorem wfRun_cons {m : Maps} {errTy : Ty} {fin n : Node} {rest : List Node}
    (h : wfRun m errTy fin (n :: rest) = true) :
    (∀ t ∈ n.ins, (m.d t).isSome) ∧ (∀ t ∈ n.recv, (m.u t).isSome) ∧
    (n.kind = .fallible → errTy ∈ n.rets) ∧
    (n.kind = .wrapper → ∀ t ∈ upTypes fin (n :: rest), (m.u t).isSome → t ∈ n.zero) ∧
    wfRun m errTy fin rest = true := by
  simp only [wfRun, Bool.and_eq_true, List.all_eq_true, Bool.or_eq_true, bne_iff_ne, ne_eq,
    Bool.not_eq_true', List.contains_eq_mem, decide_eq_true_eq] at h
  obtain ⟨⟨⟨⟨h1, h2⟩, h3⟩, h4⟩, h5⟩ := h
  exact ⟨h1, h2, fun hk => h3.resolve_left (not_not_intro hk), fun hk t ht hs =>
    ((h4.resolve_left (not_not_intro hk)) t ht).resolve_left fun h' => Bool.eq_false_iff.mp h' hs, h5⟩

theorem spec_frame (b : Beh) (m : Maps) (errTy : Ty) (fin : Node)
    (nodes : List Node) (hwf : wfRun m errTy fin nodes = true) (down : Env) (st : St) (t : Ty)
    (ht : t ∉ upTypes fin nodes) : (specNodes b errTy fin nodes down st).1 t = none := by
  induction nodes generalizing down st t with
  | nil =>
    rewrite [specNodes, specFinal]
    exact (set_frame t fin.rets _ Env.empty ht).trans rfl
  | cons n rest ih =>
    obtain ⟨_, _, herr, _, hrest⟩ := wfRun_cons hwf
    have ht1 : t ∉ n.rets := fun hm => ht (List.mem_append_left _ hm)
    have ht2 : t ∉ upTypes fin rest := fun hm => ht (List.mem_append_right _ hm)
    have ih := ih hrest
    by_cases hw : n.kind = .wrapper
    · rewrite [specNodes_wrapper hw]
      exact specTree_frame n _ down t (fun d s => ih d s t ht2) ht1 _ _ _ rfl
    · by_cases hf : n.kind = .fallible
      · rewrite [specNodes_fallible hf rfl]
        generalize isErr _ = e
        cases e with
        | true => exact if_neg fun heq : t = errTy => ht1 (heq ▸ herr hf)
        | false => exact ih _ _ t ht2
      · rewrite [specNodes_plain hw hf]; exact ih _ _ t ht2

end Nject
