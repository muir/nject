import NjectProofs.IncludeValidate
import NjectProofs.ListFacts
/-
  What `validate` accepts is a fixpoint (`validate_fix`): every included provider passes `localCheck` against the FINAL
  include flags, not merely those of the moment it was looked at.  The worklist invariant `W` says that whoever is included
  and marked, or fails its check, is still on a list; it is kept move by move because dependencies are recorded in both
  directions (`Sym`): when a provider drops out, everybody whose check read its flag is on its `usedBy` and is looked at again.
-/
namespace Nject

theorem localCheck_congr (ch ch' : Chain) (f : IP) (h : ∀ p ∈ f.watch, (ch.get p).inc = (ch'.get p).inc) :
    localCheck ch f = localCheck ch' f := by
  unfold localCheck
  unfold IP.watch at h
  -- the conjuncts that read the chain, one by one; the last two read it only if the flow must be consumed
  refine congr (congrArg and (congr (congrArg and (congrArg (and _) ?_)) ?_)) ?_
  · exact all_congr' fun e he => any_congr' fun p hp =>
      h p (List.mem_append_left _ (List.mem_append_left _ (List.mem_flatMap_of_mem he hp)))
  · cases hm : f.mcOut with
    | false => exact (Bool.true_or _).trans (Bool.true_or _).symm
    | true =>
      rewrite [hm, if_pos rfl] at h
      exact congrArg (or _) (all_congr' fun t _ => congrArg (or _)
        (lookup_any_congr (fun x hx => h x (List.mem_append_left _ (List.mem_append_right _ hx))) t))
  · cases hm : f.mcRet with
    | false => exact (Bool.true_or _).trans (Bool.true_or _).symm
    | true =>
      rewrite [hm, if_pos rfl] at h
      exact congrArg (or _) (all_congr' fun t _ => congrArg (or _)
        (lookup_any_congr (fun x hx => h x (List.mem_append_right _ hx)) t))

theorem localCheck_spec {ch : Chain} {fm : IP} (h : localCheck ch fm = true) :
    (fm.errIn = [] ∧ fm.errRecv = [] ∧ fm.errByp = []) ∧
    (∀ e ∈ fm.usesIn ++ fm.usesRecv ++ fm.usesByp, ∃ p ∈ e.2, (ch.get p).inc = true) ∧
    (fm.mcOut = true → ∀ t ∈ fm.c.out, fm.c.mustConsume.contains t = true → t ≠ tUnused →
      ∃ l, (t, l) ∈ fm.usedByOut ∧ ∃ q ∈ l, (ch.get q).inc = true) ∧
    (fm.mcRet = true → ∀ t ∈ fm.c.ret, fm.c.consOpt.contains t = false → t ≠ tUnused →
      ∃ l, (t, l) ∈ fm.usedByRet ∧ ∃ q ∈ l, (ch.get q).inc = true) := by
  unfold localCheck at h
  simp only [Bool.and_eq_true, List.isEmpty_iff, List.all_eq_true, List.any_eq_true, Bool.or_eq_true, Bool.not_eq_true',
    beq_iff_eq] at h
  obtain ⟨⟨⟨⟨⟨h1, h2⟩, h3⟩, h4⟩, h5⟩, h6⟩ := h
  refine ⟨⟨h1, h2, h3⟩, h4, fun hm t ht hc hu => ?_, fun hm t ht hc hu => ?_⟩
  · rcases h5 with h5 | h5
    · rewrite [hm] at h5; cases h5
    · rcases h5 t ht with (h | h) | h
      · rewrite [hc] at h; cases h
      · exact absurd h hu
      · exact any_lookup (List.any_eq_true.mpr h)
  · rcases h6 with h6 | h6
    · rewrite [hm] at h6; cases h6
    · rcases h6 t ht with (h | h) | h
      · rewrite [hc] at h; cases h
      · exact absurd h hu
      · exact any_lookup (List.any_eq_true.mpr h)

/-- dependencies are recorded in both directions -/
def Sym (ch : Chain) : Prop := ∀ j p, p ∈ (ch.get j).watch → j ∈ (ch.get p).usedBy

theorem Sym_of_FR {ch ch' : Chain} (hs : Sym ch) (h : FR ch ch') : Sym ch' := fun j p hp => by
  rewrite [h.proj (·.usedBy) (fun _ _ _ => rfl) p]
  exact hs j p (h.proj (·.watch) (fun _ _ _ => rfl) j ▸ hp)

theorem depsSymB_sym {ch : Chain} (h : depsSymB ch = true) : Sym ch := by
  intro j p hp
  have hj : j < ch.length := Chain.lt_of_get (P := (p ∈ ·.watch)) hp (fun h => nomatch h)
  unfold depsSymB at h
  rewrite [List.all_eq_true] at h
  have := h j (List.mem_range.mpr hj)
  rewrite [List.all_eq_true] at this
  simpa using this p hp

theorem localCheck_upd_other {ch : Chain} (hs : Sym ch) (i j : Nat) (g : IP → IP) (hji : j ≠ i)
    (hnot : j ∉ (ch.get i).usedBy) :
    localCheck (ch.upd i g) ((ch.upd i g).get j) = localCheck ch (ch.get j) := by
  rw [Chain.get_upd_ne ch g hji]
  refine localCheck_congr _ _ _ fun p hp => ?_
  rw [Chain.get_upd_ne ch g fun (hpi : p = i) => hnot (hpi ▸ hs j p hp)]

theorem localCheck_upd_sameInc {ch : Chain} (i j : Nat) (g : IP → IP) (hg : flagsOnly (ch.get i) (g (ch.get i)))
    (hinc : (g (ch.get i)).inc = (ch.get i).inc) :
    localCheck (ch.upd i g) ((ch.upd i g).get j) = localCheck ch (ch.get j) := by
  rewrite [localCheck_congr (ch.upd i g) ch _ fun p _ => Chain.proj_upd (·.inc) ch i p hinc]
  exact (FR_upd ch i g hg).proj (localCheck ch) (fun _ _ _ => rfl) j

/-- every included provider that is marked impossible or fails its check is still to be looked at -/
def W (ch : Chain) (todo seen redo : List Nat) : Prop :=
  ∀ j, (ch.get j).inc = true → ((ch.get j).cannot = true ∨ localCheck ch (ch.get j) = false) →
    (j ∈ todo ∧ j ∉ seen) ∨ j ∈ redo

theorem W.pop {ch : Chain} {i : Nat} {todo seen redo : List Nat} (hw : W ch (i :: todo) seen redo) {j : Nat} (hji : j ≠ i)
    (hj : (ch.get j).inc = true) (hbad : (ch.get j).cannot = true ∨ localCheck ch (ch.get j) = false) :
    (j ∈ todo ∧ j ∉ i :: seen) ∨ j ∈ redo :=
  (hw j hj hbad).imp_left fun ⟨hm, hns⟩ =>
    ⟨(List.mem_cons.mp hm).resolve_left hji, fun h => hns ((List.mem_cons.mp h).resolve_left hji)⟩

theorem W_seen {ch : Chain} {i : Nat} {todo seen redo : List Nat} (hw : W ch (i :: todo) seen redo) (hi : i ∈ seen) :
    W ch todo seen redo := fun j hj hbad =>
  (hw j hj hbad).imp_left fun ⟨hm, hns⟩ => ⟨(List.mem_cons.mp hm).resolve_left fun e => hns (e ▸ hi), hns⟩

theorem W_skip {ch : Chain} {i : Nat} {todo seen redo : List Nat} (hw : W ch (i :: todo) seen redo)
    (hi : (ch.get i).inc = true → (ch.get i).cannot = false ∧ localCheck ch (ch.get i) = true) :
    W ch todo (i :: seen) redo := fun j hj hbad => by
  by_cases hji : j = i
  · subst hji
    obtain ⟨h1, h2⟩ := hi hj
    rcases hbad with h | h
    · exact absurd (h1.symm.trans h) Bool.false_ne_true
    · exact absurd (h.symm.trans h2) Bool.false_ne_true
  · exact hw.pop hji hj hbad

/-- `i` is taken out: whoever watched it is on `usedBy i` (`Sym`) and goes on the redo list; nobody else's check changes -/
theorem W_drop {ch : Chain} {i : Nat} {todo seen redo : List Nat} (hs : Sym ch) (hw : W ch (i :: todo) seen redo) :
    W (ch.upd i fun f => { f with inc := false }) todo (i :: seen) (redo ++ (ch.get i).usedBy) := fun j hj hbad => by
  have hji : j ≠ i := by
    rintro rfl
    have hl := Chain.lt_of_get (P := (·.inc = true)) hj nofun
    rewrite [Chain.length_upd] at hl
    rewrite [Chain.get_upd_self ch _ hl] at hj; cases hj
  by_cases hdep : j ∈ (ch.get i).usedBy
  · exact Or.inr (List.mem_append_right _ hdep)
  · rewrite [localCheck_upd_other hs i j _ hji hdep] at hbad
    rewrite [Chain.get_upd_ne _ _ hji] at hj hbad
    exact (hw.pop hji hj hbad).imp_right (List.mem_append_left _)

/-- `i` is marked: it goes on the redo list itself; no include flag, so nobody's check, changes -/
theorem W_mark {ch : Chain} {i : Nat} {todo seen redo : List Nat} (hw : W ch (i :: todo) seen redo) :
    W (ch.upd i fun f => { f with cannot := true }) todo (i :: seen) (redo ++ [i]) := fun j hj hbad => by
  by_cases hji : j = i
  · exact Or.inr (List.mem_append_right _ (hji ▸ List.mem_singleton_self _))
  · rewrite [localCheck_upd_sameInc (ch := ch) i j (fun f => { f with cannot := true }) rfl rfl] at hbad
    rewrite [Chain.get_upd_ne _ _ hji] at hj hbad
    exact (hw.pop hji hj hbad).imp_right (List.mem_append_left _)

theorem checkPass_W {b : Bool} {todo : List Nat} {ch : Chain} {seen redo : List Nat} {ch' : Chain} {redo' : List Nat}
    (h : checkPass b todo ch seen redo = .ok (ch', redo')) (hs : Sym ch) (hw : W ch todo seen redo) : W ch' [] [] redo' := by
  fun_induction checkPass b todo ch seen redo with
  | case1 => cases h; exact fun j hj hbad => (hw j hj hbad).imp_left fun hh => nomatch hh.1
  | case3 | case4 => cases h
  | case2 _ _ _ _ _ hseen ih => exact ih h hs (W_seen hw (List.contains_iff_mem.mp hseen))
  | case5 i _ ch _ _ _ _ _ _ _ _ _ ih => exact ih h (Sym_of_FR hs (FR_upd ch i _ rfl)) (W_drop hs hw)
  | case6 _ _ _ _ _ _ _ _ _ _ _ hi ih => exact ih h hs (W_skip hw fun h' => absurd h' hi)
  | case7 _ _ _ _ _ _ _ _ hc hl ih => exact ih h hs (W_skip hw fun _ => ⟨Bool.not_eq_true _ ▸ hc, hl⟩)
  | case8 i _ ch _ _ _ _ _ _ _ ih => exact ih h (Sym_of_FR hs (FR_upd ch i _ rfl)) (W_mark hw)

/-- what `checkFlows` accepts is a fixpoint -/
def Fix (ch : Chain) : Prop :=
  ∀ j, (ch.get j).inc = true → (ch.get j).cannot = false ∧ localCheck ch (ch.get j) = true

theorem Fix_of_W {ch : Chain} (hw : W ch [] [] []) : Fix ch := fun j hj => by
  have hn : (ch.get j).cannot = true ∨ localCheck ch (ch.get j) = false → False := fun hbad => by
    rcases hw j hj hbad with ⟨h, _⟩ | h <;> cases h
  exact ⟨Bool.eq_false_iff.mpr fun hc => hn (Or.inl hc), Bool.not_eq_false _ ▸ fun hl => hn (Or.inr hl)⟩

theorem checkFlows_fix {b : Bool} {fuel : Nat} {todo : List Nat} {ch ch' : Chain}
    (h : checkFlows b fuel todo ch = .ok ch') (hs : Sym ch) (hw : W ch todo [] []) : Fix ch' := by
  fun_induction checkFlows b fuel todo ch with
  | case1 | case3 => cases h
  | case2 _ todo ch he => cases h; exact Fix_of_W (List.isEmpty_iff.mp he ▸ hw)
  | case4 _ _ _ _ _ _ hp ih =>
    exact ih h (Sym_of_FR hs (checkPass_steps hp).FR) fun j hj hbad =>
      Or.inl ⟨((checkPass_W hp hs hw) j hj hbad).resolve_left (fun hh => nomatch hh.1), List.not_mem_nil⟩

/-- **the final validation is a fixpoint**: in the chain `validate` accepts, every included provider
    passes `localCheck` against the final include flags -/
theorem validate_fix (b : Bool) (ch ch' : Chain) (h : validate b ch = .ok ch') (hs : Sym ch) : Sym ch' ∧ Fix ch' := by
  refine ⟨Sym_of_FR hs (validate_FR h), ?_⟩
  rewrite [validate_eq] at h
  split at h
  · cases h
  · refine checkFlows_fix h (Sym_of_FR hs (FR_map ch marked flagsOnly_marked)) fun j hj _ => Or.inl ⟨?_, List.not_mem_nil⟩
    -- whoever the first loop left included is on the list
    rewrite [Chain.get_map] at hj
    split at hj
    · next hl =>
      refine List.mem_filter.mpr ⟨List.mem_range.mpr hl, ?_⟩
      cases hx : (ch.get j).excluded with
      | false => rfl
      | true => rewrite [marked, if_pos hx] at hj; cases hj
    · cases hj

theorem validate_marked_out {b : Bool} {x x' : Chain} (h : validate b x = .ok x') (hs : Sym x) (d : Nat)
    (hc : (x'.get d).cannot = true) : (x'.get d).inc = false := by
  cases hi : (x'.get d).inc with
  | false => rfl
  | true => rewrite [((validate_fix b x x' h hs).2 d hi).1] at hc; cases hc

end Nject
