import NjectProofs.ReorderGraph
import NjectProofs.ReorderLive
import NjectProofs.ReorderTerm
/-
  Graph and sort meet: the graph `buildGraph` makes and the state `topoInit` makes satisfy what the invariants of
  `topo.run` assume (`reorderStatic_ok`, `topoInit_full`).  The invariants put together for the run `reorderIdx`
  makes: the properties of C17 about the algorithm are read off the state `Ran` describes.
-/
namespace Nject

theorem length_clearReorder (funcs : List CP) : (clearReorder funcs).length = funcs.length := List.length_map _

theorem reorderStatic_ok (ti : TyInfo) (funcs : List CP) (hasInit : Bool) :
    SOK (topoStatic funcs (buildGraph ti funcs hasInit)) (buildGraph ti funcs hasInit).cannotReorder := by
  have gi := (buildGraph_spec ti funcs hasInit).1
  have bn := buildNodes_dual (buildGraph ti funcs hasInit)
  exact
    { nrEq := by rewrite [gi.cr]; rfl
      beforeLt := fun k j hj => gi.strongLt (j, k) ((bn.2.1 j k).mp hj)
      downGt := fun t num h => (gi.num.range (t, num) (List.mem_append_left _ (mem_of_lookup h))).1
      upGt := fun t num h => (gi.num.range (t, num) (List.mem_append_right _ (mem_of_lookup h))).1 }

theorem topoInit_full (ti : TyInfo) (funcs : List CP) (hasInit : Bool) :
    Nonempty (Full (topoStatic funcs (buildGraph ti funcs hasInit)) (buildGraph ti funcs hasInit).cannotReorder
      (topoInit funcs (buildGraph ti funcs hasInit) hasInit)) :=
  (topoInit_started funcs _ hasInit).full (reorderStatic_ok ti funcs hasInit) fun j a b ha hb =>
    ((buildNodes_dual _).1 b a).mpr ((buildGraph_spec ti funcs hasInit).1.chain j a b ha hb)

structure Ran (s : TopoS) (NR : List Nat) (after0 : NMap) (initT : Nat → Prop) (x : Topo) : Prop where
  sok : SOK s NR
  full : Nonempty (Full s NR x)
  dep : Dep s after0 initT x
  idle : x.cannotReorder = []
  live : ∀ {xr kx : Nat}, LiveHyp s NR after0 initT xr kx → xr ∈ x.done ∧ Ord s after0 initT xr x

theorem topoRun_ran (ti : TyInfo) (fs : List CP) (hasInit : Bool) :
    Ran (topoStatic fs (buildGraph ti fs hasInit)) (buildGraph ti fs hasInit).cannotReorder
      (buildNodes (buildGraph ti fs hasInit)).after (InitReleases fs (buildGraph ti fs hasInit) hasInit)
      (Topo.loop (topoStatic fs (buildGraph ti fs hasInit)) (reorderFuel (buildGraph ti fs hasInit) fs)
        (topoInit fs (buildGraph ti fs hasInit) hasInit)) := by
  have hs := reorderStatic_ok ti fs hasInit
  have f0 := topoInit_full ti fs hasInit
  have st := topoInit_started fs (buildGraph ti fs hasInit) hasInit
  have hend := topoRun_ends hs hasInit
  exact
    { sok := hs
      full := loop_full hs _ _ f0
      dep := loop_dep hs _ _ f0 (st.dep hs)
      idle := loop_idle _ _ _ hend
      live := fun H => loop_live hs H _ _ f0 (st.dep hs) st.live (fun b p hb => by rewrite [st.out] at hb; cases hb) hend }

theorem reorderIdx_ran {ti : TyInfo} {funcs : List CP} {hasInit : Bool} {r : ReorderOut} (h : reorderIdx ti funcs hasInit = some r) :
    ∃ x : Topo,
      r = { order := x.out ++ x.leftOver (topoStatic (clearReorder funcs) (buildGraph ti (clearReorder funcs) hasInit)),
            gaveUp := x.leftOver (topoStatic (clearReorder funcs) (buildGraph ti (clearReorder funcs) hasInit)), fuelOut := false } ∧
      Ran (topoStatic (clearReorder funcs) (buildGraph ti (clearReorder funcs) hasInit))
        (buildGraph ti (clearReorder funcs) hasInit).cannotReorder (buildNodes (buildGraph ti (clearReorder funcs) hasInit)).after
        (InitReleases (clearReorder funcs) (buildGraph ti (clearReorder funcs) hasInit) hasInit) x := by
  unfold reorderIdx at h
  simp only [] at h
  split at h
  · cases h
  · have R := topoRun_ran ti (clearReorder funcs) hasInit
    refine ⟨_, ?_, R⟩
    rewrite [← Option.some.inj h, topoRun_ends R.sok hasInit]
    rfl

theorem reorderIdx_perm {ti funcs hasInit r} (h : reorderIdx ti funcs hasInit = some r) :
    r.order.Perm (List.range (clearReorder funcs).length) := by
  obtain ⟨x, rfl, R⟩ := reorderIdx_ran h
  obtain ⟨f⟩ := R.full
  exact full_order_perm f

theorem reorderIdx_fixed {ti funcs hasInit r} (h : reorderIdx ti funcs hasInit = some r) :
    r.order.filter (fun i => !((clearReorder funcs).getD i default).reorder)
      = (List.range (clearReorder funcs).length).filter (fun i => !((clearReorder funcs).getD i default).reorder) := by
  obtain ⟨x, rfl, R⟩ := reorderIdx_ran h
  obtain ⟨f⟩ := R.full
  exact (full_order_fixed R.sok f).trans R.sok.nrEq

end Nject
