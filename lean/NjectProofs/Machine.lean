import NjectProofs.Static
/-
  From the executable validator to the refinement of whole histories:
  `checkWF c = none` gives the hypotheses of the chain theorems, and every sequence of
  init/invoke calls on the bound chain yields the same results and trace in Exec and Spec.
-/
namespace Nject

theorem slotsOk_sound (c : Compiled) (h : slotsOk c = true) : SlotsOK c.maps c.vcount := by
  simp only [slotsOk, allDistinct, Bool.and_eq_true, decide_eq_true_eq, List.all_eq_true] at h
  obtain ⟨⟨⟨hnd, hlt⟩, _⟩, _⟩ := h
  have hnd' := List.nodup_append.mp hnd
  obtain ⟨hd, hu, hdis⟩ := hnd'
  refine ⟨?_, ?_, ?_, ?_, ?_⟩
  · intro t1 t2 i h1 h2
    exact congrArg Prod.fst (inj_of_nodup_map (·.2) hd (mem_of_lookup h1) (mem_of_lookup h2) rfl)
  · intro t1 t2 i h1 h2
    exact congrArg Prod.fst (inj_of_nodup_map (·.2) hu (mem_of_lookup h1) (mem_of_lookup h2) rfl)
  · intro t1 t2 i h1 h2
    exact hdis i (List.mem_map_of_mem (f := Prod.snd) (mem_of_lookup h1)) i (List.mem_map_of_mem (f := Prod.snd) (mem_of_lookup h2)) rfl
  · intro t i h1
    exact hlt i (List.mem_append.mpr (Or.inl (List.mem_map_of_mem (f := Prod.snd) (mem_of_lookup h1))))
  · intro t i h1
    exact hlt i (List.mem_append.mpr (Or.inr (List.mem_map_of_mem (f := Prod.snd) (mem_of_lookup h1))))

/-- everything `checkWF` establishes, as propositions -/
structure WF (c : Compiled) : Prop where
  slots : SlotsOK c.maps c.vcount
  run : wfRun c.maps c.errTy c.fin c.run = true
  recv : ∀ t ∈ c.invokeRecv, (c.maps.u t).isSome
  static : wfStatic c.maps.d c.statics = true
  init : ∀ sig, c.init = some sig → ∀ t ∈ sig.bypass, (c.maps.d t).isSome

theorem checkWF_sound (c : Compiled) (h : checkWF c = none) : WF c := by
  obtain ⟨h1, h⟩ := of_ite_not_eq_none h
  obtain ⟨h2, h⟩ := of_ite_not_eq_none h
  obtain ⟨h3, h⟩ := of_ite_not_eq_none h
  obtain ⟨_, h⟩ := of_ite_not_eq_none h  -- the err-slot clause: stricter than the refinement needs
  obtain ⟨h5, h⟩ := of_ite_not_eq_none h
  obtain ⟨h6, _⟩ := of_ite_not_eq_none h
  refine ⟨slotsOk_sound c h1, h2, List.all_eq_true.mp h3, h5, fun sig hs => ?_⟩
  unfold initOk at h6
  rewrite [hs] at h6
  exact fun t ht => List.all_eq_true.mp h6 t ht

structure BRel (c : Compiled) (s : Bound) (ss : SBound) : Prop where
  len : s.base.length = c.vcount
  d : Rel c.maps.d s.base ss.base
  u : Rel c.maps.u s.base Env.empty
  done : s.staticDone = ss.staticDone
  st : s.st = ss.st

theorem replicate_rel (f : Ty → Option Nat) (n : Nat) : Rel f (List.replicate n none) Env.empty := by
  intro t i _
  simp [obs, Env.rd, Env.empty, List.getElem?_replicate]
  split <;> rfl

theorem BRel.rep {c : Compiled} {s : Bound} {ss : SBound} (h : BRel c s ss) :
    Rep c.maps c.vcount s.base ss.base Env.empty := ⟨h.len, h.d, h.u⟩

theorem bindState_rel (c : Compiled) (h : WF c) : BRel c c.bindState c.specBindState :=
  have : Rep c.maps c.vcount c.bindState.base c.specBindState.base Env.empty :=
    List.foldl_rel (r := fun v e => Rep c.maps c.vcount v e Env.empty)
      ⟨List.length_replicate, replicate_rel _ _, replicate_rel _ _⟩
      -- storing one literal is `wrOuts` of a singleton list, by computation
      fun p _ _ _ hr => hr.wrD h.slots [p.1] [p.2]
  ⟨this.len, this.d, this.u, rfl, rfl⟩

theorem static_BRel {c : Compiled} (hw : WF c) (b : Beh) {v : VC} {down : Env}
    (h : Rep c.maps c.vcount v down Env.empty) (st : St) :
    BRel c { base := (execStatic b c.maps c.statics v st).1, staticDone := true, st := (execStatic b c.maps c.statics v st).2 }
      { base := (specStatic b c.statics down st).1, staticDone := true, st := (specStatic b c.statics down st).2 } :=
  have hx := exec_refines_spec_static b hw.slots c.statics hw.static st h
  ⟨hx.2.len, hx.2.d, hx.2.u, rfl, hx.1⟩

theorem BRel.ite {c : Compiled} {p : Prop} [Decidable p] {s s' : Bound} {ss ss' : SBound}
    (h : BRel c s ss) (h' : BRel c s' ss') : BRel c (if p then s else s') (if p then ss else ss') := by
  split <;> assumption

theorem execInvoke_refines (c : Compiled) (b : Beh) (h : WF c) (s : Bound) (ss : SBound)
    (hr : BRel c s ss) (args : List Val) :
    (c.execInvoke b s args).1 = (c.specInvoke b ss args).1 ∧
    BRel c (c.execInvoke b s args).2 (c.specInvoke b ss args).2 := by
  unfold Compiled.execInvoke Compiled.specInvoke
  rewrite [← hr.done, ← hr.st]
  -- whether or not the static part runs now, the states the RUN chain starts from are related
  have h1 := (static_BRel h b hr.rep s.st).ite (p := (c.init.isNone && !s.staticDone) = true) hr
  have ha := fun st => exec_refines_spec_run b h.slots c.errTy c.fin c.run h.run _ _ st
    (h1.rep.wrD h.slots c.invokeOuts args)
  dsimp only
  rewrite [← h1.st, rdIns_eq c.maps.u _ _ (ha _).u c.invokeRecv h.recv]
  exact ⟨rfl, h1.len, h1.d, h1.u, h1.done, (ha _).st⟩

theorem execInit_refines (c : Compiled) (b : Beh) (h : WF c) (s : Bound) (ss : SBound)
    (hr : BRel c s ss) (args : List Val) :
    (c.execInit b s args).1 = (c.specInit b ss args).1 ∧
    BRel c (c.execInit b s args).2 (c.specInit b ss args).2 := by
  unfold Compiled.execInit Compiled.specInit
  cases hi : c.init with
  | none => exact ⟨rfl, hr⟩
  | some sig =>
    dsimp only
    rewrite [← hr.done, ← hr.st]
    have h1 := hr.ite (p := s.staticDone = true) (static_BRel h b (hr.rep.wrD h.slots sig.outs args) s.st)
    exact ⟨by rewrite [h1.rep.rdD (h.init sig hi)]; rfl, h1⟩

/-- an operation on a bound chain -/
inductive BOp where
  | init (args : List Val)
  | invoke (args : List Val)

def Compiled.execOp (c : Compiled) (b : Beh) (s : Bound) : BOp → List Val × Bound
  | .init a => c.execInit b s a
  | .invoke a => c.execInvoke b s a

def Compiled.specOp (c : Compiled) (b : Beh) (s : SBound) : BOp → List Val × SBound
  | .init a => c.specInit b s a
  | .invoke a => c.specInvoke b s a

/-- results of a whole history of calls, in order, and the final state -/
def Compiled.execHistory (c : Compiled) (b : Beh) : List BOp → Bound → List (List Val) × Bound
  | [], s => ([], s)
  | op :: ops, s =>
    let r := c.execOp b s op
    let rs := c.execHistory b ops r.2
    (r.1 :: rs.1, rs.2)

def Compiled.specHistory (c : Compiled) (b : Beh) : List BOp → SBound → List (List Val) × SBound
  | [], s => ([], s)
  | op :: ops, s =>
    let r := c.specOp b s op
    let rs := c.specHistory b ops r.2
    (r.1 :: rs.1, rs.2)

/-- **exec_refines_spec**: for every well-formed compiled chain, every behaviour of the user's
    providers and every history of init/invoke calls, the model of the generated code and the
    reference semantics return the same values and record the same trace of provider calls. -/
theorem exec_refines_spec (c : Compiled) (b : Beh) (h : checkWF c = none) :
    ∀ (ops : List BOp) (s : Bound) (ss : SBound), BRel c s ss →
      (c.execHistory b ops s).1 = (c.specHistory b ops ss).1 ∧
      (c.execHistory b ops s).2.st = (c.specHistory b ops ss).2.st := by
  intro ops
  induction ops with
  | nil => exact fun s ss hr => ⟨rfl, hr.st⟩
  | cons op ops ih =>
    intro s ss hr
    have hw := checkWF_sound c h
    have hstep : (c.execOp b s op).1 = (c.specOp b ss op).1 ∧ BRel c (c.execOp b s op).2 (c.specOp b ss op).2 := by
      cases op with
      | init a => exact execInit_refines c b hw s ss hr a
      | invoke a => exact execInvoke_refines c b hw s ss hr a
    have ih := ih _ _ hstep.2
    refine ⟨?_, ih.2⟩
    show _ :: _ = _ :: _
    rw [hstep.1, ih.1]

end Nject
