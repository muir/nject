import NjectProofs.SlotArray
import NjectProofs.SpecLemmas
/-
  The RUN chain: for every chain that passes `wfRun`, every behaviour and every starting state, `execNodes`
  and `specNodes` end in the same state and trace, and the array shows the environment that flows up.
-/
namespace Nject

structure Agree (m : Maps) (n : Nat) (r : VC × St) (rs : Env × St) : Prop where
  st : r.2 = rs.2
  u : Rel m.u r.1 rs.1
  len : r.1.length = n

theorem Rep.agree {m : Maps} {n : Nat} {v : VC} {down up : Env} (h : Rep m n v down up) (st : St) :
    Agree m n (v, st) (up, st) := ⟨rfl, h.u, h.len⟩

/-- the statement for one continuation `next` (the rest of the chain) -/
def Refines (m : Maps) (n : Nat) (ex : VC → St → VC × St) (sp : Env → St → Env × St) : Prop :=
  ∀ (v : VC) (down : Env) (st : St), Rep m n v down Env.empty → Agree m n (ex v st) (sp down st)

/-- Every inner() call starts from the snapshot as long as the caller's array still is the snapshot before
    the first one; the modes differ only in which array the wrapper continues with. -/
theorem execTree_call {m : Maps} {n : Node} {next : VC → St → VC × St} {snap cur : VC} {cnt : Nat} {st : St}
    {args : List Val} {k : List Val → WStep} {vals : List Val} {r : VC × St}
    (hr : next (wrOuts m.d snap n.outs args) (st.push (.winner n.id args)) = r)
    (hcur : cnt = 0 → cur = snap) (hrd : rdIns m.u r.1 n.recv = some vals) :
    execTree m n next snap (.call args k) cur cnt st =
      execTree m n next snap (k vals)
        (if n.parallel = true then cur else if cnt = 0 then r.1 else copySlots m.u r.1 cur n.zero)
        (cnt + 1) (r.2.push (.wrecv n.id vals)) := by
  subst hr
  rewrite [execTree]
  by_cases hp : n.parallel = true
  · rewrite [if_pos hp, if_pos hp]; simp only [hrd]
  · rewrite [if_neg hp, if_neg hp]
    by_cases hc : cnt = 0
    · cases hcur hc; rewrite [if_pos hc, if_pos hc]; simp only [hrd]
    · rewrite [if_neg hc, if_neg hc]; simp only [hrd]

theorem execTree_refines {m : Maps} {len : Nat} (hs : SlotsOK m len) (n : Node)
    {ex : VC → St → VC × St} {sp : Env → St → Env × St} (hnext : Refines m len ex sp)
    (hframe : ∀ d s t, (m.u t).isSome → t ∉ n.zero → (sp d s).1 t = none) (hrecv : ∀ t ∈ n.recv, (m.u t).isSome)
    {v : VC} {down : Env} (hv : Rep m len v down Env.empty) :
    ∀ (w : WStep) (cur : VC) (cnt : Nat) (last : Env) (st : St),
      cur.length = len → Rel m.u cur last → (∀ t, (m.u t).isSome → t ∉ n.zero → last t = none) →
      ((cnt = 0 ∨ n.parallel = true) → cur = v ∧ last = Env.empty) →
      Agree m len (execTree m n ex v w cur cnt st) (specTree n sp down w last st) := by
  intro w
  induction w with
  | ret outs =>
    intro cur cnt last st hcl hrel _ hz
    rewrite [execTree, specTree]
    by_cases hc : cnt = 0
    · -- a wrapper that never called inner() zeroes what nobody below wrote: still the clean array
      obtain ⟨rfl, rfl⟩ := hz (.inl hc)
      rewrite [if_pos hc]
      exact ((hv.zeroU hs n.zero).wrU hs n.rets outs).agree _
    · rewrite [if_neg hc]
      have hw := wrOuts_rel m.u hs.uinj len hs.ult n.rets outs cur last hcl hrel
      exact ⟨rfl, hw.2, hw.1⟩
  | call args k ih =>
    intro cur cnt last st hcl hrel hfl hz
    have hw := hv.wrD hs n.outs args
    obtain ⟨hst, hru, hrl⟩ := hnext _ _ (st.push (.winner n.id args)) hw
    rewrite [execTree_call rfl (fun hc => (hz (.inl hc)).1) (rdIns_eq m.u _ _ hru n.recv hrecv), specTree, hst]
    have hfr := hframe (down.set n.outs args) (st.push (.winner n.id args))
    by_cases hp : n.parallel = true
    · rewrite [if_pos hp, if_pos hp]
      exact ih _ _ _ _ _ hcl hrel hfl fun _ => hz (.inr hp)
    · rewrite [if_neg hp, if_neg hp]
      have once : ¬ (cnt + 1 = 0 ∨ n.parallel = true) := fun h => h.elim (Nat.succ_ne_zero cnt) hp
      by_cases hc : cnt = 0
      · rewrite [if_pos hc]; exact ih _ _ _ _ _ hrl hru hfr fun h => absurd h once
      · rewrite [if_neg hc]
        -- copying back the zero list: outside it both the old and the new up-environment are empty
        exact ih _ _ _ _ _ ((copySlots_length _ _ _ _).trans hcl)
          (copySlots_rel hs.uinj hru n.zero cur (hcl ▸ hs.ult) fun t i hi hmem => by
            have hsl := Option.isSome_of_eq_some hi
            rw [hrel t i hi, Env.rd, Env.rd, hfl t hsl hmem, hfr t hsl hmem])
          hfr fun h => absurd h once

theorem exec_refines_spec_run (b : Beh) {m : Maps} {len : Nat} (hs : SlotsOK m len) (errTy : Ty) (fin : Node) :
    ∀ (nodes : List Node), wfRun m errTy fin nodes = true →
      Refines m len (execNodes b m errTy fin nodes) (specNodes b errTy fin nodes) := by
  intro nodes
  induction nodes with
  | nil =>
    intro hwf v down st h
    rewrite [execNodes, execFinal, h.rdD (List.all_eq_true.mp hwf), specNodes, specFinal]
    exact (h.wrU hs fin.rets _).agree _
  | cons n rest ih =>
    intro hwf v down st h
    obtain ⟨hins, hrecv, herr, hzero, hrest⟩ := wfRun_cons hwf
    have ih := ih hrest
    have hrd := h.rdD hins
    have go := fun outs st => ih _ _ st (h.wrD hs n.outs outs)
    by_cases hw : n.kind = .wrapper
    · rewrite [execNodes, specNodes_wrapper hw]; simp only [hw, hrd]
      exact execTree_refines hs n ih (fun d s t hsl hnz => spec_frame b m errTy fin rest hrest d s t fun hmem =>
          hnz (hzero hw t (List.mem_append_right _ hmem) hsl)) hrecv h
        _ v 0 Env.empty _ h.len h.u (fun _ _ _ => rfl) (fun _ => ⟨rfl, rfl⟩)
    · by_cases hf : n.kind = .fallible
      · rewrite [execNodes, specNodes_fallible hf rfl]; simp only [hf, hrd]
        generalize isErr _ = e
        cases e with
        | true => exact ((h.zeroU hs n.zero).wrU hs [errTy] [_]).agree _
        | false => exact go _ _
      · rewrite [execNodes, specNodes_plain hw hf]
        cases hk : n.kind with
        | wrapper => exact absurd hk hw
        | fallible => exact absurd hk hf
        | _ => simp only [hrd]; exact go _ _

end Nject
