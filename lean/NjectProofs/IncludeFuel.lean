import NjectProofs.IncludePrune
/-
  The loops of pruning end within their fuel.  `eliminateUnused`: entries on the work list + what the providers still included
  can add to it.  The rounds (`proposalLoop`): under any invariant of chains that makes every trial only add exclusions, a
  round that is followed by another one has raised the number of excluded providers, which cannot exceed the length.  "No
  provider is in a Cluster" (`NoCl`) is such an invariant; so is the coherence of the cluster lists (`CC`, `IncludeClusters`).
-/
namespace Nject

def elimMeasure (check : List Nat) (ch : Chain) : Nat :=
  check.length + (ch.map fun f => if f.inc then f.uses.length else 0).sum

theorem elimMeasure_upd (check : List Nat) (ch : Chain) (i : Nat) (hi : i < ch.length) (hinc : (ch.get i).inc = true) :
    elimMeasure (check ++ (ch.get i).uses) (ch.upd i fun f => { f with inc := false, cannot := true, excluded := true })
      = elimMeasure check ch := by
  unfold elimMeasure
  have := Chain.sum_map_upd (fun f : IP => if f.inc then f.uses.length else 0) ch i hi
    (fun f => { f with inc := false, cannot := true, excluded := true })
  simp only [hinc, if_true, Bool.false_eq_true, if_false, Nat.add_zero] at this
  rw [List.length_append, ← this, Nat.add_assoc, Nat.add_comm _ (List.sum _)]

theorem elimMeasure_cons (i : Nat) (check : List Nat) (ch : Chain) : elimMeasure (i :: check) ch = elimMeasure check ch + 1 := by
  unfold elimMeasure; rewrite [List.length_cons]; exact Nat.add_right_comm _ _ _

theorem eliminateUnused_succ (fuel : Nat) (check : List Nat) (ch : Chain) (h : elimMeasure check ch ≤ fuel) :
    eliminateUnused (fuel + 1) check ch = eliminateUnused fuel check ch := by
  fun_induction eliminateUnused fuel check ch with
  | case1 check ch =>
    cases check with
    | nil => rfl
    | cons i check => rewrite [elimMeasure_cons] at h; exact absurd h (Nat.not_succ_le_zero _)
  | case2 => rfl
  | case3 fuel i check ch fm hc ih =>
    rewrite [elimMeasure_cons] at h
    rewrite [eliminateUnused, if_pos hc]
    exact ih (Nat.le_of_succ_le_succ h)
  | case4 fuel i check ch fm hc hu ih =>
    rewrite [elimMeasure_cons] at h
    rewrite [eliminateUnused, if_neg hc, if_pos hu]
    exact ih (Nat.le_of_succ_le_succ h)
  | case5 fuel i check ch fm hc hu ih =>
    rewrite [elimMeasure_cons] at h
    rewrite [eliminateUnused, if_neg hc, if_neg hu]
    have hinc : (ch.get i).inc = true := by
      cases hi : (ch.get i).inc with
      | true => rfl
      | false => exact absurd (by simp only [fm, hi, Bool.not_false, Bool.or_true, Bool.true_or]) hc
    refine ih ?_
    rewrite [elimMeasure_upd check ch i (Chain.lt_of_get (P := (·.inc = true)) hinc nofun) hinc]
    exact Nat.le_of_succ_le_succ h

theorem elimMeasure_range_le (ch : Chain) : elimMeasure (List.range ch.length) ch ≤ ch.length + (ch.map (·.uses.length)).sum := by
  unfold elimMeasure
  rewrite [List.length_range]
  refine Nat.add_le_add_left (sum_map_mono (fun f => ?_) ch) _
  cases f.inc
  · exact Nat.zero_le _
  · exact Nat.le_refl _

theorem countExcluded_range (c : Chain) : countExcluded c = (List.range c.length).countP fun j => (c.get j).excluded := by
  have := congrArg (List.countP id) (Chain.map_range_get (·.excluded) c)
  rewrite [List.countP_map, List.countP_map] at this
  unfold countExcluded
  rewrite [← List.countP_eq_length_filter]
  exact this.symm

theorem countExcluded_mono {ch ch' : Chain} (h : EM ch ch') : countExcluded ch ≤ countExcluded ch' := by
  rewrite [countExcluded_range, countExcluded_range, h.1]
  exact List.countP_mono_left fun j _ hj => (h.2 j).2 hj

theorem countExcluded_le (ch : Chain) : countExcluded ch ≤ ch.length := by
  unfold countExcluded
  exact List.length_filter_le _ _

theorem EM_proposalRound {P : Chain → Prop}
    (h : ∀ c i S, P c → trialSet c i = some S → EM c (tryWithout c S) ∧ P (tryWithout c S)) (ch : Chain) (h0 : P ch) :
    EM ch (proposalRound ch) ∧ P (proposalRound ch) :=
  proposalRound_induction (P := fun c => EM ch c ∧ P c)
    (fun c i S hc _ hS => ⟨Framed.trans EM_pre hc.1 (h c i S hc.2 hS).1, (h c i S hc.2 hS).2⟩) ⟨EM_refl ch, h0⟩

/-- one more of at most `n` is excluded: one round fewer is left -/
theorem rounds_left {n x y fuel : Nat} (hlt : x < y) (hle : y ≤ n) (hm : n - x + 1 ≤ fuel + 1) : n - y + 1 ≤ fuel := by
  have h1 : n - y < n - x := Nat.sub_lt_sub_left (Nat.lt_of_lt_of_le hlt hle) hlt
  have h2 : n - y + 1 + 1 ≤ fuel + 1 := Nat.le_trans (Nat.succ_le_succ h1) hm
  exact Nat.le_of_succ_le_succ h2

theorem proposalLoop_succ_of {P : Chain → Prop}
    (h : ∀ c i S, P c → trialSet c i = some S → EM c (tryWithout c S) ∧ P (tryWithout c S))
    (fuel : Nat) (ch : Chain) (h0 : P ch) (hm : ch.length - countExcluded ch + 1 ≤ fuel) :
    proposalLoop (fuel + 1) ch = proposalLoop fuel ch := by
  induction fuel generalizing ch with
  | zero => exact absurd hm (Nat.not_succ_le_zero _)
  | succ fuel ih =>
    by_cases hc : (countExcluded (proposalRound ch) == countExcluded ch) = true
    · rw [proposalLoop, if_pos hc, proposalLoop, if_pos hc]
    · obtain ⟨em, hp⟩ := EM_proposalRound h ch h0
      -- the round has excluded one more, of at most `ch.length`
      have hlt : countExcluded ch < countExcluded (proposalRound ch) :=
        Nat.lt_of_le_of_ne (countExcluded_mono em) fun e => hc (beq_iff_eq.mpr e.symm)
      have hle : countExcluded (proposalRound ch) ≤ ch.length := em.1 ▸ countExcluded_le (proposalRound ch)
      have hm' : (proposalRound ch).length - countExcluded (proposalRound ch) + 1 ≤ fuel := by
        rewrite [em.1]; exact rounds_left hlt hle hm
      calc proposalLoop (fuel + 1 + 1) ch
          = proposalLoop (fuel + 1) (proposalRound ch) := by rw [proposalLoop, if_neg hc]
        _ = proposalLoop fuel (proposalRound ch) := ih _ hp hm'
        _ = proposalLoop (fuel + 1) ch := by rw [proposalLoop, if_neg hc]

theorem proposalLoop_stable {P : Chain → Prop}
    (h : ∀ c i S, P c → trialSet c i = some S → EM c (tryWithout c S) ∧ P (tryWithout c S)) (ch : Chain) (h0 : P ch) (extra : Nat) :
    proposalLoop (ch.length + 1 + extra) ch = proposalLoop (ch.length + 1) ch := by
  exact fuel_stable (proposalLoop · ch) (fun n => proposalLoop_succ_of h n ch h0) extra (Nat.succ_le_succ (Nat.sub_le _ _))

/-- no provider of the chain is in a Cluster -/
def NoCl (ch : Chain) : Prop := ∀ j, (ch.get j).c.cluster = 0

theorem NoCl_of_EM {ch ch' : Chain} (h : EM ch ch') (hn : NoCl ch) : NoCl ch' := fun j => by rewrite [(h.2 j).1]; exact hn j

theorem trial_NoCl {c : Chain} {i : Nat} {S : List Nat} (hn : NoCl c) (hS : trialSet c i = some S) :
    EM c (tryWithout c S) ∧ NoCl (tryWithout c S) := by
  have ⟨hx, hS'⟩ := trialSet_some hS
  rcases hS' with ⟨_, rfl⟩ | ⟨hc, _⟩
  · have em := (tryWithout_trial c [i]).EM fun w hw => by rewrite [List.mem_singleton.mp hw]; exact hx
    exact ⟨em, NoCl_of_EM em hn⟩
  · exact absurd (hn i) hc

end Nject
