import NjectProofs.IncludeAsked
/-
  What the records hold after `providesReturns`, read off the trace.  Every member of a dependency list was put there
  by a write of the trace (`providesReturns_just`), such a write is an answer given, and its back edges stay
  (`providesReturns_backEdges`).  A provider's own records: its round resets them first, every type asked for then
  leaves an error or a list of sources, and no later round resets them again (`providesReturns_dealt`, the one place
  where the order of the writes matters).
-/
namespace Nject

def IP.usesOf (f : IP) : Param → List (Ty × List Nat)
  | .inp => f.usesIn
  | .recv => f.usesRecv
  | .byp => f.usesByp

def IP.usedByOf (f : IP) (down : Bool) : List (Ty × List Nat) := if down then f.usedByOut else f.usedByRet

/-- every member of a dependency list of provider `k` is accounted for by a write of `L`; one clause per record, so that
    a write replaces the clause of the record it touches (`Wr.fn_just`) -/
structure IP.Just (L : List Wr) (k : Nat) (f : IP) : Prop where
  usesIn : ∀ t q, Lists f.usesIn t q → .use .inp k t q ∈ L
  usesRecv : ∀ t q, Lists f.usesRecv t q → .use .recv k t q ∈ L
  usesByp : ∀ t q, Lists f.usesByp t q → .use .byp k t q ∈ L
  usedByOut : ∀ t q, Lists f.usedByOut t q → .usedBy true k t q ∈ L
  usedByRet : ∀ t q, Lists f.usedByRet t q → .usedBy false k t q ∈ L
  flat : ∀ x ∈ f.uses, ∃ p t, .use p k t x ∈ L
  back : ∀ x ∈ f.usedBy, (∃ down t, .usedBy down k t x ∈ L) ∨ .back k x ∈ L

theorem IP.Just.uses {L : List Wr} {k : Nat} {f : IP} (h : f.Just L k) (p : Param) (t : Ty) (q : Nat) :
    Lists (f.usesOf p) t q → .use p k t q ∈ L := by
  cases p
  · exact h.usesIn t q
  · exact h.usesRecv t q
  · exact h.usesByp t q

theorem IP.Just.usedBy {L : List Wr} {k : Nat} {f : IP} (h : f.Just L k) (down : Bool) (t : Ty) (q : Nat) :
    Lists (f.usedByOf down) t q → .usedBy down k t q ∈ L := by
  cases down
  · exact h.usedByRet t q
  · exact h.usedByOut t q

theorem Wr.fn_just {L : List Wr} (w : Wr) (f : IP) (hw : w ∈ L) (h : f.Just L w.pos) : (w.fn f).Just L w.pos := by
  cases w with
  | err p _ _ | rmap p _ _ _ => cases p <;> exact { h with }
  | clearByp _ => exact { h with }
  | back _ _ =>
    exact { h with back := List.forall_mem_append.mpr ⟨h.back, List.forall_mem_singleton.mpr (Or.inr hw)⟩ }
  | reset p _ =>
    cases p with
    | inp => exact { h with usesIn := fun _ _ hl => absurd hl Lists_nil }
    | recv => exact { h with usesRecv := fun _ _ hl => absurd hl Lists_nil }
    | byp => exact { h with usesByp := fun _ _ hl => absurd hl Lists_nil }
  | clearUsedBy down _ =>
    cases down with
    | true => exact { h with usedByOut := fun _ _ hl => absurd hl Lists_nil }
    | false => exact { h with usedByRet := fun _ _ hl => absurd hl Lists_nil }
  | use p i t d =>
    have flat : ∀ x ∈ f.uses ++ [d], ∃ p t, .use p i t x ∈ L :=
      List.forall_mem_append.mpr ⟨h.flat, List.forall_mem_singleton.mpr ⟨p, t, hw⟩⟩
    have new : ∀ t' q, Lists (appendAt (f.usesOf p) t d) t' q → .use p i t' q ∈ L := fun t' q hl =>
      (Lists_appendAt.mp hl).elim (h.uses p t' q) fun e => e.1 ▸ e.2 ▸ hw
    cases p with
    | inp => exact { h with usesIn := new, flat := flat }
    | recv => exact { h with usesRecv := new, flat := flat }
    | byp => exact { h with usesByp := new, flat := flat }
  | usedBy down d t i =>
    have back : ∀ x ∈ f.usedBy ++ [i], (∃ down t, .usedBy down d t x ∈ L) ∨ .back d x ∈ L :=
      List.forall_mem_append.mpr ⟨h.back, List.forall_mem_singleton.mpr (Or.inl ⟨down, t, hw⟩)⟩
    have new : ∀ t' q, Lists (appendAt (f.usedByOf down) t i) t' q → .usedBy down d t' q ∈ L := fun t' q hl =>
      (Lists_appendAt.mp hl).elim (h.usedBy down t' q) fun e => e.1 ▸ e.2 ▸ hw
    cases down with
    | true => exact { h with usedByOut := new, back := back }
    | false => exact { h with usedByRet := new, back := back }

theorem providesReturns_just (ti : TyInfo) (s : Chain) (ip : Option Nat) :
    ∀ k, ((providesReturns ti s ip).get k).Just (trace ti s ip) k := by
  rewrite [providesReturns_trace]
  refine List.foldlRecOn (motive := fun c : Chain => ∀ k, (c.get k).Just (trace ti s ip) k) _ _ (fun k => ?_) fun c h w hw k =>
    Chain.get_upd_of (Q := (·.Just _ k)) c _ k (h k) fun e => e ▸ w.fn_just _ hw (h _)
  rewrite [Chain.get_map' s (g := resetDeps) rfl]
  exact ⟨fun _ _ h => absurd h Lists_nil, fun _ _ h => absurd h Lists_nil, fun _ _ h => absurd h Lists_nil,
    fun _ _ h => absurd h Lists_nil, fun _ _ h => absurd h Lists_nil, fun _ h => absurd h List.not_mem_nil, fun _ h => absurd h List.not_mem_nil⟩

theorem Wr.fn_usedBy_mono (w : Wr) (f : IP) : ∀ x ∈ f.usedBy, x ∈ (w.fn f).usedBy := by
  intro x h
  cases w with
  | reset p _ | err p _ _ | rmap p _ _ _ | use p _ _ _ => cases p <;> exact h
  | clearUsedBy down _ => cases down <;> exact h
  | usedBy down _ _ _ => cases down <;> exact List.mem_append_left _ h
  | back _ _ => exact List.mem_append_left _ h
  | clearByp _ => exact h

theorem providesReturns_backEdges {ti : TyInfo} {s : Chain} {ip : Option Nat} {p : Param} {i d : Nat} {t : Ty}
    (hip : ∀ k, ip = some k → k < s.length) (h : .use p i t d ∈ trace ti s ip) :
    i ∈ ((providesReturns ti s ip).get d).usedBy ∧
      ((s.get d).mcOf (p != .recv) = true → d ∈ ((providesReturns ti s ip).get i).usedBy) := by
  obtain ⟨hi, hd⟩ := use_bounds hip h
  rewrite [providesReturns_trace]
  constructor
  · exact foldl_apply_mark (Q := fun f => i ∈ f.usedBy) (w := .usedBy (p != .recv) d t i)
      (fun f => by cases (p != .recv) <;> exact List.mem_append_right _ List.mem_cons_self) _ _ (by rewrite [List.length_map]; exact hd)
      (use_siblings h).1 (fun w' _ _ f hf => w'.fn_usedBy_mono f i hf)
  · intro hmc
    exact foldl_apply_mark (Q := fun f => d ∈ f.usedBy) (w := .back i d)
      (fun f => List.mem_append_right _ List.mem_cons_self) _ _ (by rewrite [List.length_map]; exact hi)
      ((use_siblings h).2 hmc) (fun w' _ _ f hf => w'.fn_usedBy_mono f d hf)

theorem providesReturns_source (ti : TyInfo) (s : Chain) (ip : Option Nat) {p : Param} (hp : p ≠ .byp) {k : Nat} {t : Ty} {q : Nat}
    (h : Lists (((providesReturns ti s ip).get k).usesOf p) t q) :
    Ahead (p != .recv) q k ∧
      ∃ x, (if (p != .recv) = true then x ∈ ((providesReturns ti s ip).get q).c.out else x ∈ ((providesReturns ti s ip).get q).c.ret) ∧
        (x = t ∨ ti.implements x t = true) := by
  obtain ⟨j, found, a⟩ := use_facts ((providesReturns_just ti s ip k).uses p t q h)
  have hkj : k = j := by cases p <;> first | exact a.pivot | exact absurd rfl hp
  subst hkj
  refine ⟨a.side, found, ?_, a.fits⟩
  rewrite [providesReturns_c]
  have := (List.mem_filter.mp a.offers).1
  cases p <;> exact this

/-- **where recorded sources of inputs come from**: after `providesReturns`, whoever is listed as a source of the
    requested type `e.1` of provider `k` is listed before `k` and outputs that type or a type implementing it -/
theorem providesReturns_supply (ti : TyInfo) (ch : Chain) (initPos : Option Nat) :
    ∀ k e p, e ∈ ((providesReturns ti ch initPos).get k).usesIn → p ∈ e.2 →
      p < k ∧ ∃ x, x ∈ ((providesReturns ti ch initPos).get p).c.out ∧ (x = e.1 ∨ ti.implements x e.1 = true) :=
  fun _ _ _ he hp => providesReturns_source ti ch initPos (p := .inp) Param.noConfusion (Lists_of_mem he hp)

/-- **where recorded consumers of outputs come from**: after `providesReturns`, whoever is listed as a
    consumer of the type `e.1` provided by `d` is listed after `d` and takes that type as an input, or
    is the init function and takes it as a parameter bypassing the invoke function -/
theorem providesReturns_provDown (ti : TyInfo) (ch : Chain) (initPos : Option Nat) :
    ∀ d e q, e ∈ ((providesReturns ti ch initPos).get d).usedByOut → q ∈ e.2 →
      (d < q ∧ e.1 ∈ ((providesReturns ti ch initPos).get q).c.inp) ∨
      (initPos = some q ∧ e.1 ∈ ((providesReturns ti ch initPos).get q).c.byp) := by
  intro d e q he hq
  obtain ⟨p, hp, hu⟩ := use_of_usedBy ((providesReturns_just ti ch initPos d).usedBy true e.1 q (Lists_of_mem he hq))
  obtain ⟨j, _, a⟩ := use_facts hu
  rewrite [providesReturns_c]
  cases p with
  | inp => cases a.pivot; exact Or.inl ⟨a.side, a.asked.1⟩
  | byp => exact Or.inr ⟨a.pivot.1, a.asked.1⟩
  | recv => cases hp

theorem Wr.fn_upRmap (w : Wr) (f : IP) (t v : Ty) (hw : ∀ i found, w = .rmap .recv i t found → found = v) (h : remapT f.upRmap t = v) :
    remapT (w.fn f).upRmap t = v := by
  cases w with
  | rmap p i t' found =>
    cases p with
    | recv =>
      show remapT (setKey f.upRmap t' found) t = v
      by_cases ht : t = t'
      · subst ht; rewrite [remapT_setKey_same]; exact hw i found rfl
      · rewrite [remapT_setKey_other _ _ _ _ ht]; exact h
    | inp => exact h
    | byp => exact h
  | reset p _ | err p _ _ | use p _ _ _ => cases p <;> exact h
  | usedBy down _ _ _ | clearUsedBy down _ => cases down <;> exact h
  | back _ _ | clearByp _ => exact h

/-- **where recorded consumers come from**: after `providesReturns`, whoever is listed as consumer of
    a type that `d` returns is listed before `d` and does receive that type -/
theorem providesReturns_prov (ti : TyInfo) (ch : Chain) (initPos : Option Nat) (hip : ∀ ip, initPos = some ip → ip < ch.length) :
    ∀ d e q, e ∈ ((providesReturns ti ch initPos).get d).usedByRet → q ∈ e.2 →
      q < d ∧ (((providesReturns ti ch initPos).get d).c.ret.contains e.1 = true → e.1 ≠ tUnused →
        ((providesReturns ti ch initPos).get q).recvTypes.contains e.1 = true) := by
  intro d e q he hq
  obtain ⟨p, hp, hu⟩ := use_of_usedBy ((providesReturns_just ti ch initPos d).usedBy false e.1 q (Lists_of_mem he hq))
  have hp : p = .recv := by cases p <;> first | rfl | cases hp
  subst hp
  obtain ⟨found, deps, ha, hd⟩ := use_asked hu
  obtain ⟨j, ⟨rfl, ⟨hj, _⟩, _, hlt, _, _, ⟨ht, hn⟩, hex⟩⟩ := ha.answer hd
  refine ⟨hlt, fun hr hne => ?_⟩
  rewrite [providesReturns_c] at hr
  -- the table of the round of `q` has an entry for `e.1`, since `d` returns it: the answer is `e.1` itself
  have hex : found = e.1 := hex (List.mem_filter.mpr ⟨List.contains_iff_mem.mp hr, by rewrite [bne_iff_ne.mpr hn, bne_iff_ne.mpr hne]; rfl⟩)
  subst hex
  have hmark : remapT ((providesReturns ti ch initPos).get q).upRmap e.1 = e.1 := by
    rewrite [providesReturns_trace]
    refine foldl_apply_mark (Q := fun f => remapT f.upRmap e.1 = e.1) (w := .rmap .recv q e.1 e.1)
      (fun f => remapT_setKey_same _ _ _) _ _ (by rewrite [List.length_map]; exact hj) (mem_trace.mpr (.answer ha .rmap)) ?_
    intro w' hw' hpos f hf
    refine w'.fn_upRmap f e.1 e.1 (fun i found' hw => ?_) hf
    subst hw
    have : i = q := hpos
    subst this
    cases mem_trace.mp hw' with
    | answer ha' hw' => cases hw' with | rmap => exact (Prod.mk.inj (Option.some.inj (Asked.unique Param.noConfusion ha' ha))).1
  unfold IP.recvTypes
  rewrite [List.contains_iff_mem, providesReturns_c]
  exact List.mem_map.mpr ⟨e.1, ht, hmark⟩

/-- `x` may appear in a dependency list: not marked, or the init function -/
def OKp (C : Nat → Bool) (ip : Option Nat) (x : Nat) : Prop := C x = false ∨ ip = some x

/-- what skipping the marked providers comes to; `C` is the mark by position -/
structure NC (C : Nat → Bool) (ip : Option Nat) (ch : Chain) : Prop where
  hc : ∀ j, j < ch.length → (ch.get j).cannot = C j
  a : ∀ k, ∀ x ∈ (ch.get k).uses ++ (ch.get k).usedBy, OKp C ip x
  b : ∀ j, ¬ OKp C ip j → (ch.get j).uses = [] ∧ (ch.get j).usedBy = []

theorem use_OKp {ti : TyInfo} {s : Chain} {ip : Option Nat} {p : Param} {i : Nat} {t : Ty} {d : Nat}
    (h : .use p i t d ∈ trace ti s ip) : OKp (fun j => (s.get j).cannot) ip i ∧ OKp (fun j => (s.get j).cannot) ip d := by
  obtain ⟨j, _, a⟩ := use_facts h
  refine ⟨?_, Or.inl a.source.2⟩
  cases p with
  | inp => cases a.pivot; exact Or.inl a.round.2
  | recv => cases a.pivot; exact Or.inl a.round.2
  | byp => exact Or.inr a.pivot.1

/-- **the marked providers are skipped**: after `providesReturns` a provider marked "cannot be included" (other than
    the init function) has empty dependency lists and is on nobody's list -/
theorem providesReturns_skips (ti : TyInfo) (ch : Chain) (initPos : Option Nat) :
    NC (fun j => (ch.get j).cannot) initPos (providesReturns ti ch initPos) := by
  have ok : ∀ k, ∀ x ∈ ((providesReturns ti ch initPos).get k).uses ++ ((providesReturns ti ch initPos).get k).usedBy,
      OKp (fun j => (ch.get j).cannot) initPos k ∧ OKp (fun j => (ch.get j).cannot) initPos x := by
    intro k x hx
    have hj := providesReturns_just ti ch initPos k
    rcases List.mem_append.mp hx with hx | hx
    · obtain ⟨p, t, hu⟩ := hj.flat x hx
      exact use_OKp hu
    · rcases hj.back x hx with ⟨down, t, hb⟩ | hb
      · obtain ⟨p, _, hu⟩ := use_of_usedBy hb
        exact (use_OKp hu).symm
      · obtain ⟨p, t, hu⟩ := use_of_back hb
        exact use_OKp hu
  exact
    { hc := fun j _ => providesReturns_proj IP.cannot (fun _ _ => rfl) ti ch initPos j
      a := fun k x hx => (ok k x hx).2
      b := fun j hnok =>
        ⟨List.eq_nil_iff_forall_not_mem.mpr fun x hx => hnok (ok j x (List.mem_append_left _ hx)).1,
          List.eq_nil_iff_forall_not_mem.mpr fun x hx => hnok (ok j x (List.mem_append_right _ hx)).1⟩ }

def IP.errOf (f : IP) : Param → List Ty
  | .inp => f.errIn
  | .recv => f.errRecv
  | .byp => f.errByp

/-- the type `t` asked for as a parameter `p` has been dealt with: it is on the error list or has a source on record -/
def IP.Dealt (f : IP) (p : Param) (t : Ty) : Prop := t ∈ f.errOf p ∨ ∃ q, Lists (f.usesOf p) t q

/-- only the reset takes it back -/
theorem Wr.fn_dealt {p : Param} {t : Ty} (w : Wr) (f : IP) (hw : ∀ i, w ≠ .reset p i) (h : f.Dealt p t) : (w.fn f).Dealt p t := by
  unfold IP.Dealt IP.errOf IP.usesOf at h ⊢
  unfold Wr.fn
  cases w with
  | reset p' i => cases p <;> cases p' <;> first | exact h | exact absurd rfl (hw i)
  | err p' _ t' => cases p <;> cases p' <;> first | exact h | exact h.imp (List.mem_append_left _) id
  | use p' _ t' d =>
    cases p <;> cases p' <;> first | exact h | exact h.imp id (Exists.imp fun _ h => Lists_appendAt.mpr (Or.inl h))
  | rmap p' _ _ _ => cases p' <;> exact h
  | usedBy down _ _ _ | clearUsedBy down _ => cases down <;> exact h
  | back _ _ | clearByp _ => exact h

theorem reqWrs_dealt {ti : TyInfo} {s : Chain} {avail : IMap} (hne : ∀ e ∈ avail, e.2.2 ≠ []) {p : Param} {i : Nat} (c : Chain) (hi : i < c.length) :
    ∀ t ∈ flowOfParam (s.get i) p, t ≠ tNoType →
      (((reqWrs ti s avail p i).foldl Wr.apply c).get i).Dealt p t := by
  intro t ht hn
  have keep : ∀ t', ∀ w ∈ typeWrs ti s avail p i t', w.pos = i → ∀ f : IP, f.Dealt p t → (w.fn f).Dealt p t :=
    fun _ w hw _ f => w.fn_dealt f fun _ => (mem_typeWrs.mp hw).ne_reset
  rewrite [reqWrs, List.foldl_cons]
  refine foldl_flatMap_last (Q := fun f => f.Dealt p t) (k := i) (typeWrs ti s avail p i) t _ _ (List.mem_filter.mpr ⟨ht, bne_iff_ne.mpr hn⟩)
    (by rewrite [Wr.apply_length]; exact hi) (fun c hi => ?_) fun t' _ _ => keep t'
  -- the block of `t` holds a write that deals with it: the error, or the first source of a positive answer
  cases hb : bestMatch ti (fun q => (s.get q).c.loose) avail t with
  | none =>
    refine foldl_apply_mark (Q := fun f => f.Dealt p t) (w := .err p i t) (fun f => Or.inl ?_) _ c hi (mem_typeWrs.mpr (by rewrite [hb]; exact .err)) (keep t)
    cases p <;> exact List.mem_append_right _ List.mem_cons_self
  | some r =>
    obtain ⟨found, deps⟩ := r
    obtain ⟨e, he, _, _, hne', _⟩ := bm_entry hb
    cases deps with
    | nil => exact absurd rfl (hne' (hne e he))
    | cons d deps =>
      refine foldl_apply_mark (Q := fun f => f.Dealt p t) (w := .use p i t d) (fun f => Or.inr ⟨d, ?_⟩) _ c hi
        (mem_typeWrs.mpr (by rewrite [hb]; exact .use List.mem_cons_self)) (keep t)
      cases p <;> exact Lists_appendAt.mpr (Or.inr ⟨rfl, rfl⟩)

theorem providesReturns_dealt (ti : TyInfo) (s : Chain) (ip : Option Nat) {p : Param} (hp : p ≠ .byp) (j : Nat)
    (hc : (s.get j).cannot = false) : ∀ t ∈ flowOfParam (s.get j) p, t ≠ tNoType → ((providesReturns ti s ip).get j).Dealt p t := by
  intro t ht hn
  have hj : j < s.length := Chain.lt_of_get (P := fun f => t ∈ flowOfParam f p) ht (by cases p <;> exact List.not_mem_nil)
  rewrite [providesReturns_trace]
  refine foldl_flatMap_last (Q := fun f => f.Dealt p t) (k := j) _ (p != .recv, j) _ _ (mem_rounds.mpr hj) (by rewrite [List.length_map]; exact hj) (fun c hjc => ?_)
    fun r _ hne w hw hpos f hf => w.fn_dealt f (fun i h => ?_) hf
  · -- the round of `j` ends with `j` asking for its parameters `p`
    obtain ⟨X, hX⟩ : ∃ X, roundWrs ti s ip (p != .recv) (tableBefore s (p != .recv) s.length j) j =
        X ++ reqWrs ti s (tableBefore s (p != .recv) s.length j) p j ++ [.clearUsedBy (p != .recv) j] := by
      unfold roundWrs
      simp only [hc, Bool.false_eq_true, if_false]
      cases p with
      | inp => exact ⟨_, rfl⟩
      | recv => exact ⟨[], rfl⟩
      | byp => exact absurd rfl hp
    dsimp only
    rewrite [hX, List.foldl_append, List.foldl_append]
    exact foldl_apply_keep [.clearUsedBy (p != .recv) j] (fun w hw _ f hf => w.fn_dealt f (fun i h => by subst h; cases List.mem_singleton.mp hw) hf)
      (reqWrs_dealt (tableBefore_nonempty s _ _ j) _ (by rewrite [foldl_apply_length]; exact hjc) t ht hn)
  · -- no other round resets them
    subst h
    have := reset_mem_roundWrs hp hw
    exact hne (Prod.ext this.2 (this.1.symm.trans hpos))

/-- **every requested input type is dealt with**: after `providesReturns`, for a provider that is not marked "cannot be
    included", every input type it asks for is either in its error list or has a list of recorded sources -/
theorem providesReturns_covered (ti : TyInfo) (ch : Chain) (initPos : Option Nat) (j : Nat)
    (hc : ((providesReturns ti ch initPos).get j).cannot = false) :
    ∀ t ∈ ((providesReturns ti ch initPos).get j).c.inp, t ≠ tNoType →
      t ∈ ((providesReturns ti ch initPos).get j).errIn ∨ ∃ e ∈ ((providesReturns ti ch initPos).get j).usesIn, e.1 = t := by
  rewrite [providesReturns_c]
  rewrite [providesReturns_proj IP.cannot fun _ _ => rfl] at hc
  exact fun t ht hn => (providesReturns_dealt ti ch initPos (p := .inp) Param.noConfusion j hc t ht hn).imp id fun h => h.elim fun _ h => h.hasKey

/-- what a provider has on record about the types it receives from below; the downward pass leaves it alone (`down_foldl_RE`) -/
def RE (f : IP) : List (Ty × List Nat) × List Ty := (f.usesRecv, f.errRecv)

theorem down_foldl_RE (ti : TyInfo) (initPos : Option Nat) : ∀ (l : List Nat) (acc : Chain × IMap),
    Pres RE acc.1 (l.foldl (downStep ti initPos) acc).1 := fun l acc =>
  List.foldlRecOn (motive := fun b : Chain × IMap => Pres RE acc.1 b.1) l _ (Pres_refl RE acc.1) fun b hb i _ => by
    obtain ⟨c, avail⟩ := b
    rewrite [downStep_trace (Pres_refl _ c) initPos 0 avail i]
    refine Pres_trans hb (foldl_apply_pres RE _ c fun w hw f => ?_)
    -- no write of a downward round is about `.recv`
    obtain ⟨_, rfl | ⟨p, k, hp, _, h | ⟨rfl, rfl⟩⟩⟩ := mem_roundWrs.mp hw
    · rfl
    · rcases mem_reqWrs.mp h with rfl | ⟨t, _, _, ha⟩
      · cases p <;> first | rfl | cases hp
      · generalize bestMatch ti _ avail t = r at ha
        cases ha with
        | err | rmap | use => cases p <;> first | rfl | cases hp
        | usedBy _ e => cases e; cases p <;> first | rfl | cases hp
        | back => rfl
    · rfl

end Nject
