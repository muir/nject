import NjectProofs.Framed
/-
  `validate` (`validateChainMarkIncludeExclude`, include.go:221-345).  Its first loop is a `map` (`validate_eq`): every excluded
  provider starts as "out, cannot be included", every other one as "in".  Its worklist then makes moves of two kinds only
  (`Step`): an included provider that is marked is taken out, a provider whose local check fails is marked.  What every move
  preserves, `validate` preserves (`validate_steps`).  A move never puts a provider in or takes a mark away, and lowers
  (providers marked included) + (providers not marked `cannot`) by one: the worklist ends within its fuel.
-/
namespace Nject

/-- `b` is `a` with other values of `inc` and `cannot` -/
def flagsOnly (a b : IP) : Prop := { a with inc := b.inc, cannot := b.cannot } = b

theorem flagsOnly_refl (a : IP) : flagsOnly a a := rfl

theorem flagsOnly_trans {a b c : IP} (h1 : flagsOnly a b) (h2 : flagsOnly b c) : flagsOnly a c := by
  unfold flagsOnly at *
  rw [← h2, ← h1]

theorem flagsOnly.proj {α} {a b : IP} (h : flagsOnly a b) (φ : IP → α) (hφ : ∀ f i c, φ { f with inc := i, cannot := c } = φ f) :
    φ b = φ a := by
  unfold flagsOnly at h; rewrite [← h]; exact hφ _ _ _

/-- `ch'` is `ch` with other include / impossible flags -/
def FR : Chain → Chain → Prop := Framed fun _ => flagsOnly

theorem flagsOnly_pre : Framed.Pre fun _ => flagsOnly := ⟨fun _ => flagsOnly_refl, flagsOnly_trans⟩

theorem FR_trans {a b c : Chain} (h1 : FR a b) (h2 : FR b c) : FR a c := Framed.trans flagsOnly_pre h1 h2

theorem FR_upd (ch : Chain) (i : Nat) (g : IP → IP) (hg : flagsOnly (ch.get i) (g (ch.get i))) : FR ch (ch.upd i g) :=
  Framed.upd flagsOnly_pre ch i hg

theorem FR.proj {α} {a b : Chain} (h : FR a b) (φ : IP → α) (hφ : ∀ f i c, φ { f with inc := i, cannot := c } = φ f) (j : Nat) :
    φ (b.get j) = φ (a.get j) := (h.2 j).proj φ hφ

theorem FR_map (ch : Chain) (g : IP → IP) (hg : ∀ f, flagsOnly f (g f)) : FR ch (ch.map g) :=
  Framed.map flagsOnly_pre ch fun _ => hg

/-- what the first loop of `validate` does to one provider -/
def marked (f : IP) : IP :=
  if f.excluded then { f with cannot := true, inc := false } else { f with inc := true, cannot := false }

theorem flagsOnly_marked (f : IP) : flagsOnly f (marked f) := by
  unfold marked; split <;> rfl

theorem markAll_eq (todo : List Nat) (ch : Chain) (rem : List Nat) :
    markAll todo ch rem =
      if todo.any (fun i => (ch.get i).excluded && (ch.get i).c.required) then .error .required
      else .ok (todo.foldl (fun c i => c.upd i marked) ch, rem ++ todo.filter fun i => !(ch.get i).excluded) := by
  -- the loop reads `excluded` and `required` only, and writes flags only
  have key : ∀ (ch : Chain) (i : Nat),
      (fun k => ((ch.upd i marked).get k).excluded && ((ch.upd i marked).get k).c.required) = (fun k => (ch.get k).excluded && (ch.get k).c.required)
      ∧ (fun k => !((ch.upd i marked).get k).excluded) = (fun k => !(ch.get k).excluded) := fun ch i =>
    have hx := (FR_upd ch i marked (flagsOnly_marked _)).proj (·.excluded) fun _ _ _ => rfl
    have hc := (FR_upd ch i marked (flagsOnly_marked _)).proj (·.c) fun _ _ _ => rfl
    ⟨funext fun k => by rw [hx, hc], funext fun k => by rw [hx]⟩
  fun_induction markAll todo ch rem with
  | case1 => simp
  | case2 i rest ch rem hx ih =>
    have hx' : (ch.get i).excluded = false := by simpa using hx
    have hm : (ch.upd i fun f => { f with inc := true, cannot := false }) = ch.upd i marked :=
      Chain.upd_congr ch i (by unfold marked; rewrite [hx']; rfl)
    rewrite [hm] at ih ⊢
    rewrite [ih, (key ch i).1, (key ch i).2, List.any_cons, List.foldl_cons, List.filter_cons, hx', List.append_assoc]
    rfl
  | case3 i rest ch rem hx hr =>
    have hx' : (ch.get i).excluded = true := by simpa using hx
    rewrite [List.any_cons, hx', hr]; rfl
  | case4 i rest ch rem hx hr ih =>
    have hx' : (ch.get i).excluded = true := by simpa using hx
    have hm : (ch.upd i fun f => { f with cannot := true, inc := false }) = ch.upd i marked :=
      Chain.upd_congr ch i (by unfold marked; rewrite [hx']; rfl)
    rewrite [hm] at ih ⊢
    rewrite [ih, (key ch i).1, (key ch i).2, List.any_cons, List.foldl_cons, List.filter_cons, hx', Bool.eq_false_iff.mpr hr]
    rfl

theorem validate_eq (b : Bool) (ch : Chain) :
    validate b ch =
      if (List.range ch.length).any (fun i => (ch.get i).excluded && (ch.get i).c.required) then .error .required
      else checkFlows b (4 * ch.length * ch.length + 8) ((List.range ch.length).filter fun i => !(ch.get i).excluded) (ch.map marked) := by
  unfold validate
  rewrite [markAll_eq, Chain.foldl_upd_range]
  by_cases h : ((List.range ch.length).any fun i => (ch.get i).excluded && (ch.get i).c.required) = true
  · rw [if_pos h, if_pos h]
  · rewrite [if_neg h, if_neg h, List.nil_append]; simp only [List.length_map]

/-- the validity check refuses to drop this provider when it finds it impossible: in a trial (`b`, `canRemoveDesired`, is
    false), the provider Desired or auto-desired and not excluded -/
def IP.held (b : Bool) (f : IP) : Bool := (f.wanted || f.c.desired) && !b && !f.excluded

/-- the two moves of the worklist (`b` is `canRemoveDesired`) -/
inductive Step (b : Bool) (ch : Chain) : Chain → Prop
  | drop (i : Nat) : (ch.get i).cannot = true → (ch.get i).c.required = false → (ch.get i).held b = false → (ch.get i).inc = true →
      Step b ch (ch.upd i fun f => { f with inc := false })
  | mark (i : Nat) : (ch.get i).cannot = false → localCheck ch (ch.get i) = false →
      Step b ch (ch.upd i fun f => { f with cannot := true })

inductive Steps (b : Bool) : Chain → Chain → Prop
  | refl (ch : Chain) : Steps b ch ch
  | head {a c d : Chain} : Step b a c → Steps b c d → Steps b a d

theorem Steps.trans {b : Bool} {a c d : Chain} (h1 : Steps b a c) (h2 : Steps b c d) : Steps b a d := by
  induction h1 with
  | refl => exact h2
  | head s _ ih => exact .head s (ih h2)

theorem Steps.lift {b : Bool} {P : Chain → Prop} (hP : ∀ {a c}, Step b a c → P a → P c) {a c : Chain}
    (s : Steps b a c) (h : P a) : P c := by
  induction s with
  | refl => exact h
  | head st _ ih => exact ih (hP st h)

theorem checkPass_steps {b : Bool} {todo : List Nat} {ch : Chain} {seen redo : List Nat} {ch' : Chain} {redo' : List Nat}
    (h : checkPass b todo ch seen redo = .ok (ch', redo')) : Steps b ch ch' := by
  fun_induction checkPass b todo ch seen redo with
  | case1 => cases h; exact .refl _
  | case3 | case4 => cases h
  | case2 _ _ _ _ _ _ ih | case6 _ _ _ _ _ _ _ _ _ _ _ _ ih | case7 _ _ _ _ _ _ _ _ _ _ ih => exact ih h
  | case5 i _ ch _ _ _ _ fm hc hr hw hi ih =>
    exact .head (.drop i hc (Bool.not_eq_true _ ▸ hr) (Bool.not_eq_true _ ▸ hw) hi) (ih h)
  | case8 i _ ch _ _ _ _ fm hc hl ih => exact .head (.mark i (Bool.not_eq_true _ ▸ hc) (Bool.not_eq_true _ ▸ hl)) (ih h)

theorem checkFlows_steps {b : Bool} {fuel : Nat} {todo : List Nat} {ch ch' : Chain}
    (h : checkFlows b fuel todo ch = .ok ch') : Steps b ch ch' := by
  fun_induction checkFlows b fuel todo ch with
  | case1 => cases h
  | case2 => cases h; exact .refl _
  | case3 => cases h
  | case4 _ _ _ _ _ _ hp ih => exact (checkPass_steps hp).trans (ih h)

theorem validate_steps {b : Bool} {ch ch' : Chain} (h : validate b ch = .ok ch') :
    (∀ j, (ch.get j).excluded = true → (ch.get j).c.required = false) ∧ Steps b (ch.map marked) ch' := by
  rewrite [validate_eq] at h
  split at h
  · cases h
  · next hn =>
    refine ⟨fun j hx => ?_, checkFlows_steps h⟩
    cases hr : (ch.get j).c.required with
    | false => rfl
    | true =>
      exact absurd (List.any_eq_true.mpr ⟨j, List.mem_range.mpr (Chain.lt_of_get (P := (·.excluded = true)) hx nofun), by simp [hx, hr]⟩) hn

theorem Step.FR {b : Bool} {a c : Chain} (s : Step b a c) : FR a c := by
  cases s <;> exact FR_upd a _ _ rfl

theorem Steps.FR {b : Bool} {a c : Chain} (s : Steps b a c) : FR a c :=
  s.lift (P := Nject.FR a) (fun st h => FR_trans h st.FR) (Framed.refl flagsOnly_pre a)

theorem validate_FR {b : Bool} {ch ch' : Chain} (h : validate b ch = .ok ch') : FR ch ch' :=
  FR_trans (FR_map ch marked flagsOnly_marked) (validate_steps h).2.FR

theorem validate_length {b : Bool} {ch ch' : Chain} (h : validate b ch = .ok ch') : ch'.length = ch.length :=
  (validate_FR h).1

/-- inclusion only shrinks, the mark only spreads -/
def DM : Chain → Chain → Prop := Framed fun _ f g => (g.inc = true → f.inc = true) ∧ (f.cannot = true → g.cannot = true)

theorem DM_pre : Framed.Pre fun _ f g => (g.inc = true → f.inc = true) ∧ (f.cannot = true → g.cannot = true) :=
  ⟨fun _ _ => ⟨id, id⟩, fun h1 h2 => ⟨fun h => h1.1 (h2.1 h), fun h => h2.2 (h1.2 h)⟩⟩

theorem Step.DM {b : Bool} {a c : Chain} (s : Step b a c) : DM a c := by
  cases s with
  | drop i => exact Framed.upd DM_pre a i ⟨nofun, id⟩
  | mark i => exact Framed.upd DM_pre a i ⟨id, fun _ => rfl⟩

theorem Steps.DM {b : Bool} {a c : Chain} (s : Steps b a c) : DM a c :=
  s.lift (P := Nject.DM a) (fun st h => Framed.trans DM_pre h st.DM) (Framed.refl DM_pre a)

theorem validate_excl {b : Bool} {ch ch' : Chain} (h : validate b ch = .ok ch') (j : Nat)
    (hex : (ch.get j).excluded = true) : (ch'.get j).inc = false ∧ (ch'.get j).cannot = true := by
  have dm := (validate_steps h).2.DM.2 j
  rewrite [Chain.get_map, if_pos (Chain.lt_of_get (P := (·.excluded = true)) hex nofun), marked, if_pos hex] at dm
  exact ⟨Bool.eq_false_iff.mpr fun hi => (nomatch dm.1 hi), dm.2 rfl⟩

/-- providers still marked included + providers not (yet) marked `cannot` -/
def mu (ch : Chain) : Nat := (ch.map fun f => f.inc.toNat + (!f.cannot).toNat).sum

theorem Step.mu {b : Bool} {a c : Chain} (s : Step b a c) : mu c + 1 = mu a := by
  unfold Nject.mu
  cases s with
  | drop i _ _ _ hi =>
    have := Chain.sum_map_upd (fun f => f.inc.toNat + (!f.cannot).toNat) a i (Chain.lt_of_get (P := (·.inc = true)) hi nofun)
      (fun f => { f with inc := false })
    simp only [hi, Bool.toNat_true, Bool.toNat_false, Nat.zero_add] at this
    rewrite [← Nat.add_assoc] at this
    exact Nat.add_right_cancel this
  | mark i hc hl =>
    have := Chain.sum_map_upd (fun f => f.inc.toNat + (!f.cannot).toNat) a i
      (Chain.lt_of_get (P := fun f => localCheck a f = false) hl (fun h => nomatch (rfl : localCheck a default = true).symm.trans h)) (fun f => { f with cannot := true })
    simp only [hc, Bool.not_false, Bool.not_true, Bool.toNat_true, Bool.toNat_false, Nat.add_zero] at this
    rewrite [Nat.add_comm _ 1, ← Nat.add_assoc] at this
    exact Nat.add_right_cancel this

/-- after a move the measure is below where it was: the bound holds, and equality is out -/
theorem mu_less {c d : Nat} {P : Prop} (h : d ≤ c) : d ≤ c + 1 ∧ (d = c + 1 → P) :=
  ⟨Nat.le_succ_of_le h, fun e => absurd (e ▸ h : c + 1 ≤ c) (Nat.not_succ_le_self c)⟩

theorem checkPass_mu {b : Bool} {todo : List Nat} {ch : Chain} {seen redo : List Nat} {ch' : Chain} {redo' : List Nat}
    (h : checkPass b todo ch seen redo = .ok (ch', redo')) : mu ch' ≤ mu ch ∧ (mu ch' = mu ch → redo' = redo) := by
  fun_induction checkPass b todo ch seen redo with
  | case1 => cases h; exact ⟨Nat.le_refl _, fun _ => rfl⟩
  | case3 | case4 => cases h
  | case2 _ _ _ _ _ _ ih | case6 _ _ _ _ _ _ _ _ _ _ _ _ ih | case7 _ _ _ _ _ _ _ _ _ _ ih => exact ih h
  | case5 i _ ch _ _ _ _ fm hc hr hw hi ih =>
    rewrite [← (Step.drop (b := b) (ch := ch) i hc (Bool.not_eq_true _ ▸ hr) (Bool.not_eq_true _ ▸ hw) hi).mu]
    exact mu_less (ih h).1
  | case8 i _ ch _ _ _ _ fm hc hl ih =>
    rewrite [← (Step.mark (b := b) (ch := ch) i (Bool.not_eq_true _ ▸ hc) (Bool.not_eq_true _ ▸ hl)).mu]
    exact mu_less (ih h).1

theorem checkPass_not_fuel (b : Bool) (todo : List Nat) (ch : Chain) (seen redo : List Nat) :
    checkPass b todo ch seen redo ≠ .error .fuel := by
  fun_induction checkPass b todo ch seen redo with
  | case1 | case3 | case4 => nofun
  | case2 _ _ _ _ _ _ ih | case5 _ _ _ _ _ _ _ _ _ _ _ _ ih | case6 _ _ _ _ _ _ _ _ _ _ _ _ ih
  | case7 _ _ _ _ _ _ _ _ _ _ ih | case8 _ _ _ _ _ _ _ _ _ _ ih => exact ih

/-- a pass that made a move leaves enough fuel for the rest -/
theorem fuel_left {c d fuel : Nat} (h : d ≤ c) (he : d ≠ c) (hf : c + 2 ≤ fuel + 1) : d + 2 ≤ fuel :=
  have h1 : d + 2 < c + 2 := Nat.add_lt_add_right (Nat.lt_of_le_of_ne h he) 2
  Nat.le_of_lt_succ (Nat.lt_of_lt_of_le h1 hf)

theorem checkFlows_not_fuel (b : Bool) (fuel : Nat) (todo : List Nat) (ch : Chain) (hf : mu ch + 2 ≤ fuel) :
    checkFlows b fuel todo ch ≠ .error .fuel := by
  fun_induction checkFlows b fuel todo ch with
  | case1 => exact absurd hf (Nat.not_succ_le_zero _)
  | case2 => nofun
  | case3 _ _ _ _ e hp => intro he; injection he with he; exact checkPass_not_fuel _ _ _ _ _ (he ▸ hp)
  | case4 fuel todo ch _ ch1 redo hp ih =>
    obtain ⟨a, c⟩ := checkPass_mu hp
    by_cases he : mu ch1 = mu ch
    · rewrite [c he]
      cases fuel with
      | zero => exact absurd (Nat.le_of_succ_le_succ hf) (Nat.not_succ_le_zero _)
      | succ f => simp [checkFlows]
    · exact ih (fuel_left a he hf)

/-- the fuel `validate` starts with covers a measure of at most two per provider -/
theorem fuel_enough {m n : Nat} (h : m ≤ 2 * n) : m + 2 ≤ 4 * n * n + 8 := by
  have h2 : 2 * n ≤ 4 * (n * n) := Nat.mul_le_mul (by decide) (Nat.le_mul_self n)
  rewrite [Nat.mul_assoc]
  exact Nat.add_le_add (Nat.le_trans h h2) (by decide)

theorem validate_never_out_of_fuel (b : Bool) (ch : Chain) : validate b ch ≠ .error .fuel := by
  rewrite [validate_eq]
  split
  · nofun
  · apply checkFlows_not_fuel
    have h1 := sum_map_le (fun f : IP => f.inc.toNat + (!f.cannot).toNat) 2
      (fun f => Nat.add_le_add (Bool.toNat_le _) (Bool.toNat_le _)) (ch.map marked)
    rewrite [List.length_map] at h1
    exact fuel_enough h1

end Nject
