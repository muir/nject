import NjectProofs.ReorderCore
/-
  `topo.run` honours the strong constraints of every provider it places on its own initiative:
  a Reorder'd provider is emitted only after every provider it has to come after has been emitted,
  and -- for a constraint on a type's pseudo node -- only after some provider that releases that node
  (outputs the type / receives it, or the init function outputs it) has been emitted.

  Invariant `Dep` (on top of `Core`/`Full` of `ReorderCore.lean`):
  * `shrink`: an entry leaves an `after` set only when it has been processed;
  * `heapEmpty`: a provider sits in a heap only with an empty `after` set;
  * `heapTy` / `doneTy`: a type node is queued / processed only with a witness: an emitted releaser;
  * `placed`: for every emitted Reorder'd provider, its original `after` entries are emitted
    (or witnessed) EARLIER in the output.
-/
namespace Nject

structure Dep (s : TopoS) (after0 : NMap) (initT : Nat → Prop) (x : Topo) : Prop where
  shrink : ∀ m j, j ∈ after0.get m → j ∈ x.after.get m ∨ j ∈ x.done
  heapEmpty : ∀ e, e ∈ x.unblocked ∨ e ∈ x.weakBlocked → e.2 < s.n → x.after.get e.2 = []
  heapTy : ∀ e, e ∈ x.unblocked ∨ e ∈ x.weakBlocked → s.n < e.2 → initT e.2 ∨ ∃ p ∈ x.out, Releases s p e.2
  doneTy : ∀ j ∈ x.done, s.n < j → initT j ∨ ∃ p ∈ x.out, Releases s p j
  placed : ∀ (b i : Nat), x.out[b]? = some i → s.isReorder i = true → ∀ j ∈ after0.get i,
      (j < s.n → ∃ a : Nat, a < b ∧ x.out[a]? = some j) ∧
      (s.n < j → initT j ∨ ∃ (a p : Nat), a < b ∧ x.out[a]? = some p ∧ Releases s p j)

section
variable {s : TopoS} {NR : List Nat} {after0 : NMap} {initT : Nat → Prop} {x z : Topo} {k i : Nat}

theorem Dep.waitsEmpty (h : Dep s after0 initT x) {m : Nat} (hw : x.waits m) (hlt : m < s.n) : x.after.get m = [] := by
  obtain ⟨e, he, rfl⟩ := hw; exact h.heapEmpty e (List.mem_append.mp he) hlt

theorem Dep.waitsTy (h : Dep s after0 initT x) {m : Nat} (hw : x.waits m) (hgt : s.n < m) : initT m ∨ ∃ p ∈ x.out, Releases s p m := by
  obtain ⟨e, he, rfl⟩ := hw; exact h.heapTy e (List.mem_append.mp he) hgt

theorem Dep.step (hs : SOK s NR) (f : Full s NR x) (d : Dep s after0 initT x) {rel : Bool} (p : Iter s x z i rel) :
    Dep s after0 initT z := by
  -- a node that comes off the queue is there with reason; a fixed provider is neither a type node nor marked Reorder
  have hsrc : (i < s.n → s.isReorder i = true → x.after.get i = []) ∧ (s.n < i → initT i ∨ ∃ q ∈ x.out, Releases s q i) := by
    rcases p.src with ⟨hw, _, _⟩ | ⟨_, hcr, _⟩
    · exact ⟨fun hlt _ => d.waitsEmpty hw hlt, d.waitsTy hw⟩
    · have hmem := (hs.mem i).mp (List.mem_iff_getElem?.mpr ⟨f.m, f.next hcr⟩)
      exact ⟨fun _ hr => absurd (hmem.2.symm.trans hr) Bool.false_ne_true, fun hgt => absurd hmem.1 (Nat.lt_asymm hgt)⟩
  have wit : ∀ j, (initT j ∨ ∃ q ∈ x.out, Releases s q j) → initT j ∨ ∃ q ∈ z.out, Releases s q j := fun j hj =>
    hj.imp_right (Exists.imp fun q hq => ⟨p.mem_out.mpr (Or.inl hq.1), hq.2⟩)
  refine { shrink := fun m j hj => ?_, heapEmpty := fun e he hlt => ?_, heapTy := fun e he hgt => ?_, doneTy := fun j hj hjn => ?_, placed := ?_ }
  · rcases d.shrink m j hj with hin | hd
    · exact if e : j = i then Or.inr (p.mem_done.mpr (Or.inl e)) else Or.inl (p.aft.keep hin e)
    · exact Or.inr (p.mem_done.mpr (Or.inr hd))
  · rcases p.waitsUp _ (Topo.waits_of_mem he) with hw | hn
    · exact p.aft.nil_of_nil (d.waitsEmpty hw hlt)
    · exact hn.2.resolve_left (Nat.not_le_of_lt hlt)
  · rcases p.waitsUp _ (Topo.waits_of_mem he) with hw | hn
    · exact wit _ (d.waitsTy hw hgt)
    · -- only a provider releases type nodes
      obtain ⟨hd, hb | hr⟩ := Topo.mem_targets.mp hn.1
      · exact absurd (hs.beforeLt i _ hb.2) (Nat.lt_asymm hgt)
      · exact Or.inr ⟨i, p.mem_out.mpr (Or.inr ⟨rfl, hd, hr.1.1⟩), hr.2⟩
  · rcases p.mem_done.mp hj with rfl | hj
    · exact wit _ (hsrc.2 hjn)
    · exact wit _ (d.doneTy j hj hjn)
  · intro b i' hb hr j hj
    rewrite [p.out] at hb ⊢
    split at hb
    · rename_i hq; rewrite [if_pos hq]; exact d.placed b i' hb hr j hj
    · rename_i hq
      rewrite [if_neg hq]
      have keep : ∀ {a q : Nat}, x.out[a]? = some q → (x.out ++ [i])[a]? = some q := fun ha => getElem?_concat.mpr (Or.inl ha)
      rcases getElem?_concat.mp hb with hb' | ⟨rfl, rfl⟩
      · obtain ⟨p1, p2⟩ := d.placed b i' hb' hr j hj
        exact ⟨fun hjn => (p1 hjn).imp fun a ha => ⟨ha.1, keep ha.2⟩,
          fun hjn => (p2 hjn).imp_right (Exists.imp fun a => Exists.imp fun q hq => ⟨hq.1, keep hq.2.1, hq.2.2⟩)⟩
      · -- `i'` is emitted with an empty `after` set: all it had to come after is done, hence emitted (`Core.doneOut`)
        -- or witnessed (`doneTy`)
        have hdn : j ∈ x.done := (d.shrink i' j hj).resolve_left (by rewrite [hsrc.1 (Nat.lt_of_le_of_ne (Nat.le_of_not_lt fun hg => hq (Or.inr hg)) (f.src_ne hs p)) hr]; exact List.not_mem_nil)
        refine ⟨fun hjn => ?_, fun hjn => ?_⟩
        · obtain ⟨a, ha⟩ := List.mem_iff_getElem?.mp (f.core.doneOut j hdn hjn)
          exact ⟨a, (List.getElem?_eq_some_iff.mp ha).1, keep ha⟩
        · rcases d.doneTy j hdn hjn with hi | ⟨q, hq, hrl⟩
          · exact Or.inl hi
          · obtain ⟨a, ha⟩ := List.mem_iff_getElem?.mp hq
            exact Or.inr ⟨a, q, (List.getElem?_eq_some_iff.mp ha).1, keep ha, hrl⟩

theorem loop_dep (hs : SOK s NR) (fuel : Nat) (x : Topo) (hf : Nonempty (Full s NR x)) (d : Dep s after0 initT x) :
    Dep s after0 initT (Topo.loop s fuel x) :=
  loop_induction (P := fun x => Nonempty (Full s NR x) ∧ Dep s after0 initT x) (Q := Dep s after0 initT)
    (fun ⟨⟨f⟩, d⟩ p => ⟨f.step hs p, d.step hs f p⟩) (fun _ h _ _ => h.2)
    (fun _ h => ⟨h.2.shrink, h.2.heapEmpty, h.2.heapTy, h.2.doneTy, h.2.placed⟩) fuel x ⟨hf, d⟩

end

theorem Started.dep {fs : List CP} {g : RGraph} {hasInit : Bool} {x : Topo} (st : Started fs g hasInit x)
    (hs : SOK (topoStatic fs g) g.cannotReorder) :
    Dep (topoStatic fs g) (buildNodes g).after (InitReleases fs g hasInit) x where
  shrink := fun m j hj => Or.inl (by rewrite [st.after]; exact hj)
  heapEmpty := fun e he hlt => absurd hlt (Nat.lt_asymm (st.waits_gt hs (Topo.waits_of_mem he)))
  heapTy := fun e he _ => Or.inl ((st.waits e.2).mp (Topo.waits_of_mem he))
  doneTy := fun j hj => by rewrite [st.done] at hj; exact absurd hj List.not_mem_nil
  placed := fun b i hb => by rewrite [st.out] at hb; cases hb

end Nject
