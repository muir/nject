import NjectProofs.ChainLemmas
/-
  `Framed F a b`: chain `b` has the length of `a` and, at every position `j`, is related to it by `F j`.  With `F` saying
  which fields are kept (or move one way only), and where, this is the shape of the "only these fields change (there)"
  relations of the include computation (`FR`, `DM`, `EM`, `SF`, `TrialF`, `ClF`, `PruneF`); its closure under the ways a chain
  is written is proved here once.
-/
namespace Nject

def Framed (F : Nat → IP → IP → Prop) (a b : Chain) : Prop := b.length = a.length ∧ ∀ j, F j (a.get j) (b.get j)

structure Framed.Pre (F : Nat → IP → IP → Prop) : Prop where
  refl : ∀ j f, F j f f
  trans : ∀ {j f g h}, F j f g → F j g h → F j f h

namespace Framed
variable {F G : Nat → IP → IP → Prop} {a b c : Chain}

theorem refl (hF : Pre F) (a : Chain) : Framed F a a := ⟨rfl, fun _ => hF.refl _ _⟩

theorem trans (hF : Pre F) (h1 : Framed F a b) (h2 : Framed F b c) : Framed F a c :=
  ⟨h2.1.trans h1.1, fun j => hF.trans (h1.2 j) (h2.2 j)⟩

theorem mono (hFG : ∀ {j f g}, F j f g → G j f g) (h : Framed F a b) : Framed G a b := ⟨h.1, fun j => hFG (h.2 j)⟩

theorem upd (hF : Pre F) (a : Chain) (i : Nat) {g : IP → IP} (hg : F i (a.get i) (g (a.get i))) : Framed F a (a.upd i g) :=
  ⟨Chain.length_upd a i g, fun j => by
    rewrite [Chain.get_upd]; split
    · next h => rewrite [h.1]; exact hg
    · exact hF.refl _ _⟩

theorem map (hF : Pre F) (a : Chain) {g : IP → IP} (hg : ∀ j f, F j f (g f)) : Framed F a (a.map g) :=
  ⟨List.length_map _, fun j => by
    rewrite [Chain.get_map]; split
    · exact hg _ _
    · next h => rewrite [Chain.get_of_le a (Nat.le_of_not_lt h)]; exact hF.refl _ _⟩

theorem foldl {α} (hF : Pre F) (step : Chain → α → Chain) (P : α → Prop)
    (hs : ∀ c x, P x → Framed F c (step c x)) (l : List α) (c : Chain) (hl : ∀ x ∈ l, P x) : Framed F c (l.foldl step c) :=
  List.foldlRecOn (motive := Framed F c) l step (refl hF c) fun _ hb x hx => trans hF hb (hs _ x (hl x hx))

end Framed
end Nject
