import NjectProofs.IncludeClusters
import NjectProofs.IncludeKeep
/-
  What pruning spares and what it never takes back.  A Required, Desired or auto-desired provider that is not Shun'd and in no
  Cluster (`ProtW`) is skipped by `eliminateUnused` and is a seed of the keep-closure, so it is never proposed; and a trial
  changes the exclusion and `wanted` flags of the tried providers only, which are the proposed provider or the members of its
  Cluster.  In the other direction no drop and no trial takes an exclusion back.
-/
namespace Nject

/-- a provider the rounds must leave alone: outside every Cluster, not Shun'd, and Required, Desired or auto-desired -/
def ProtW (f : IP) : Prop :=
  f.c.cluster = 0 ∧ f.c.shun = false ∧ (f.c.required = true ∨ f.c.desired = true ∨ (f.wanted = true ∧ f.wantedInCluster = false))

theorem ProtW_congr {f g : IP} (hc : g.c = f.c) (hw : g.wanted = f.wanted) (hwc : g.wantedInCluster = f.wantedInCluster)
    (hp : ProtW f) : ProtW g := by
  unfold ProtW at *; rewrite [hc, hw, hwc]; exact hp

theorem lt_of_protW {ch : Chain} {d : Nat} (hp : ProtW (ch.get d)) : d < ch.length :=
  Chain.lt_of_get (P := ProtW) hp fun h => by
    rcases h.2.2 with h | h | h
    · cases h
    · cases h
    · cases h.1

theorem protW_not_proposed (ch : Chain) (d : Nat) (hp : ProtW (ch.get d)) (hx : (ch.get d).excluded = false) :
    d ∉ proposeEliminations ch := by
  intro hprop
  have hseed : d ∈ keepSeeds ch := by
    unfold keepSeeds
    refine List.mem_filter.mpr ⟨List.mem_range.mpr (lt_of_protW hp), ?_⟩
    rcases hp.2.2 with h | h | h
    · simp [hx, h]
    · simp [hx, h]
    · simp [hx, h.1, h.2]
  rcases C03_proposed_is_shunned_or_not_kept ch d hprop with h | ⟨h, _⟩
  · rewrite [hp.2.1] at h; cases h
  · exact h ((C03_kept_is_closed ch true).1 d hseed)

theorem trial_keepsW {c : Chain} {i d : Nat} {S : List Nat} (hcc : CC c) (hp : ProtW (c.get d)) (hx : (c.get d).excluded = false)
    (hS : trialSet c i = some S) (hid : i ≠ d) :
    ProtW ((tryWithout c S).get d) ∧ ((tryWithout c S).get d).excluded = false := by
  have hd := trialSet_not_mem hcc hS hp.1 hid
  have t := tryWithout_trial c S
  exact ⟨ProtW_congr (t.same d).1 (t.other hd).2 (t.same d).2.2 hp, by rewrite [(t.other hd).1]; exact hx⟩

theorem pruneStages_keeps_wanted (ch : Chain) (h0 : ∀ j, (ch.get j).clusterMembers = none) (d : Nat)
    (hp : ProtW (ch.get d)) (hc : (ch.get d).cannot = false) (hx : (ch.get d).excluded = false) :
    ((pruneStages ch).get d).cannot = false := by
  have hm : Chain.get (ch.map fun (f : IP) => if f.cannot then { f with excluded := true, inc := false } else f) d = ch.get d := by
    rewrite [Chain.get_map' ch rfl, hc]; rfl
  have hd := (clusters_other _ (map_cannot_fresh h0) d (by rewrite [hm]; exact hp.1)).trans hm
  obtain ⟨r, ⟨_, _, xr⟩, e⟩ := pruneStages_induction (ch := ch) (P := fun c => CC c ∧ ProtW (c.get d) ∧ (c.get d).excluded = false)
    ⟨clusters_CC _ (map_cannot_fresh h0), by rewrite [hd]; exact hp, by rewrite [hd]; exact hx⟩
    (fun c i hc hd => by
      -- what is dropped is neither Required, Desired nor wanted, so it is not `d`
      have hid : d ≠ i := by
        rintro rfl
        rcases hc.2.1.2.2 with h | h | h
        · exact Bool.noConfusion (hd.1.symm.trans h)
        · exact Bool.noConfusion (hd.2.1.symm.trans h)
        · exact Bool.noConfusion (hd.2.2.1.symm.trans h.1)
      rewrite [Chain.get_upd_ne _ _ hid]
      exact ⟨drop_CC hc.1 hd, hc.2⟩)
    -- `d` is not proposed at the start of a round, so every trial of the round is of somebody else's set
    (fun c0 _ _ _ h0 hc hi hS =>
      ⟨(trial_CC hc.1 hS).2, trial_keepsW hc.1 hc.2.1 hc.2.2 hS fun e => protW_not_proposed c0 d h0.2.1 h0.2.2 (e ▸ hi)⟩)
  rewrite [e, Chain.get_map' r rfl]
  exact xr

theorem pruneStages_keeps_mark (ch : Chain) (h0 : ∀ j, (ch.get j).clusterMembers = none) (j : Nat) (hc : (ch.get j).cannot = true) :
    ((pruneStages ch).get j).excluded = true := by
  have cca := clusters_CC _ (map_cannot_fresh h0)
  obtain ⟨r, hr, e⟩ := pruneStages_induction (P := fun c => CC c ∧ (c.get j).excluded = true) (ch := ch)
    ⟨cca, by rw [((clusters_framed _).2 j).same.2, Chain.get_map' ch rfl, hc, if_pos rfl]⟩
    (fun c i hc hd => ⟨drop_CC hc.1 hd, Chain.get_upd_of (Q := (·.excluded = true)) c i j hc.2 fun _ => rfl⟩)
    (fun _ c i S _ hc _ hS => ⟨(trial_CC hc.1 hS).2, ((trial_CC hc.1 hS).1.2 j).2 hc.2⟩)
  rewrite [e, Chain.get_map' r rfl j]
  exact hr.2

end Nject
