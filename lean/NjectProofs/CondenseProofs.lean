import Nject.Condense
import NjectProofs.IncludeTable
import NjectProofs.ListFacts
/-
  Lemmas about `netFlows` and `netReturns` (flows.go) behind C19.  Their de-duplicating loops are one fold (`addNew`),
  so one member of `netFlows` is described by membership alone (`netMember_mem`); `NInv` is the invariant over the
  members done so far.
-/
namespace Nject

/-- a member as the flow loops see it: (inputs, outputs) going down, (received, returned) going up -/
abbrev Mem := List Ty × List Ty

/-- what `bestMatch` finds is something an earlier member produces, and it is the wanted type or
    implements the wanted interface -/
theorem bestMatch_found (ti : TyInfo) (loose : Nat → List Ty) (m : IMap) (want t : Ty) (deps : List Nat)
    (h : bestMatch ti loose m want = some (t, deps)) :
    hasKey m t ∧ (t = want ∨ (ti.isIface want = true ∧ ti.implements t want = true)) := by
  obtain ⟨e, he, hk, -, -, hr⟩ := bm_entry h
  exact ⟨⟨e, he, hk⟩, hr.imp_right And.right⟩

theorem resolveInput_cases (ti : TyInfo) (loose : Nat → List Ty) (m : IMap) (y : Ty) :
    resolveInput ti loose m y = y ∨
    (hasKey m (resolveInput ti loose m y) ∧ ti.isIface y = true ∧ ti.implements (resolveInput ti loose m y) y = true) := by
  unfold resolveInput
  split
  · rename_i t deps h
    have ⟨hk, hr⟩ := bestMatch_found ti loose m y t deps h
    exact hr.imp_right fun hr => ⟨hk, hr⟩
  · left; rfl

/-- append those of `xs` that are neither blocked nor in the list already: the three loops of flows.go
    (`uniqueIn`, `uniqueOut`, `netReturns`) all have this shape -/
def addNew (blocked : Ty → Bool) (acc xs : List Ty) : List Ty :=
  xs.foldl (fun acc t => if blocked t || acc.contains t then acc else acc ++ [t]) acc

theorem addNew_cons (blocked : Ty → Bool) (acc : List Ty) (x : Ty) (xs : List Ty) :
    addNew blocked acc (x :: xs) = addNew blocked (if blocked x || acc.contains x then acc else acc ++ [x]) xs := rfl

theorem mem_addNew (blocked : Ty → Bool) (t : Ty) (xs acc : List Ty) :
    t ∈ addNew blocked acc xs ↔ t ∈ acc ∨ (t ∈ xs ∧ blocked t = false) := by
  induction xs generalizing acc with
  | nil => exact (or_iff_left fun h => List.not_mem_nil h.1).symm
  | cons x xs ih =>
    rewrite [addNew_cons, ih, List.mem_cons, or_and_right, ← or_assoc]
    -- what is left is the step: membership in the accumulator after `x`
    refine or_congr_left ?_
    by_cases hc : (blocked x || acc.contains x) = true
    · rewrite [if_pos hc]
      refine (or_iff_left_of_imp fun h => ?_).symm
      rewrite [← h.1, h.2] at hc
      exact List.contains_iff_mem.mp hc
    · rewrite [if_neg hc, List.mem_append, List.mem_singleton]
      rewrite [Bool.or_eq_true, not_or, Bool.not_eq_true] at hc
      exact or_congr_right ⟨fun e => ⟨e, e ▸ hc.1⟩, And.left⟩

theorem mem_addNew_contains (l acc xs : List Ty) (t : Ty) :
    t ∈ addNew l.contains acc xs ↔ t ∈ acc ∨ (t ∈ xs ∧ t ∉ l) := by
  rw [mem_addNew, ← Bool.not_eq_true, List.contains_iff_mem]

theorem netInputs_eq (ti : TyInfo) (loose : Nat → List Ty) (ins : List Ty) (s : NF) (ibt : List Ty) :
    netInputs ti loose ins s ibt =
      ({ s with uniqueIn := addNew s.uniqueOut.contains s.uniqueIn (ins.map (resolveInput ti loose s.avail)) },
       (ins.map (resolveInput ti loose s.avail)).reverse ++ ibt) := by
  fun_induction netInputs ti loose ins s ibt with
  | case1 s ibt => rfl
  | case2 s ibt y ys input ibt' hc ih =>
    rewrite [ih, List.map_cons, addNew_cons, if_pos hc, List.reverse_cons, List.append_assoc]; rfl
  | case3 s ibt y ys input ibt' hc ih =>
    rewrite [ih, List.map_cons, addNew_cons, if_neg hc, List.reverse_cons, List.append_assoc]; rfl

theorem netOutputs_eq (i : Nat) (ibt : List Ty) (outs : List Ty) (s : NF) :
    netOutputs i ibt outs s =
      { s with avail := outs.foldl (fun m o => m.add o i i) s.avail,
               uniqueOut := addNew (fun o => ibt.contains o || s.uniqueIn.contains o) s.uniqueOut outs } := by
  fun_induction netOutputs i ibt outs s with
  | case1 s => rfl
  | case2 s o os s' hc ih => rw [ih, addNew_cons, List.foldl_cons, if_pos hc]
  | case3 s o os s' hc ih => rw [ih, addNew_cons, List.foldl_cons, if_neg hc]

theorem hasKey_addAll (i : Nat) (x : Ty) (outs : List Ty) (m : IMap) :
    hasKey (outs.foldl (fun (m : IMap) o => m.add o i i) m) x ↔ hasKey m x ∨ x ∈ outs := by
  induction outs generalizing m with
  | nil => exact (or_iff_left List.not_mem_nil).symm
  | cons o os ih => rw [List.foldl_cons, ih, hasKey_add, List.mem_cons, or_assoc]

theorem netMember_mem (ti : TyInfo) (loose : Nat → List Ty) (s : NF) (i : Nat) (io : Mem) (x : Ty) :
    let rs := io.1.map (resolveInput ti loose s.avail)
    let s' := netMember ti loose s i io
    (hasKey s'.avail x ↔ hasKey s.avail x ∨ x ∈ io.2)
    ∧ (x ∈ s'.uniqueIn ↔ x ∈ s.uniqueIn ∨ (x ∈ rs ∧ x ∉ s.uniqueOut))
    ∧ (x ∈ s'.uniqueOut ↔ x ∈ s.uniqueOut ∨ (x ∈ io.2 ∧ x ∉ rs ∧ x ∉ s'.uniqueIn)) := by
  intro rs s'
  simp only [s', rs, netMember, netInputs_eq, netOutputs_eq]
  refine ⟨hasKey_addAll i x io.2 s.avail, mem_addNew_contains _ _ _ x, ?_⟩
  rw [mem_addNew, Bool.or_eq_false_iff, ← Bool.not_eq_true, ← Bool.not_eq_true, List.contains_iff_mem,
    List.contains_iff_mem, List.append_nil, List.mem_reverse]

structure NInv (ti : TyInfo) (done : List Mem) (s : NF) : Prop where
  keys : ∀ t, hasKey s.avail t ↔ ∃ (j : Nat) (io : Mem), done[j]? = some io ∧ t ∈ io.2
  outs_seen : ∀ (j : Nat) (io : Mem), done[j]? = some io → ∀ t ∈ io.2, t ∈ s.uniqueIn ∨ t ∈ s.uniqueOut
  uout : ∀ t ∈ s.uniqueOut, ∃ (j : Nat) (io : Mem), done[j]? = some io ∧ t ∈ io.2
  exact : ∀ x ∈ s.uniqueIn, ∃ (i : Nat) (io : Mem), done[i]? = some io ∧ x ∈ io.1
      ∧ ∀ (j : Nat) (jo : Mem), j < i → done[j]? = some jo → x ∉ jo.2
  suff : ∀ (i : Nat) (io : Mem), done[i]? = some io → ∀ y ∈ io.1, ∃ x',
      (x' ∈ s.uniqueIn ∨ ∃ (j : Nat) (jo : Mem), j < i ∧ done[j]? = some jo ∧ x' ∈ jo.2)
      ∧ (x' = y ∨ (ti.isIface y = true ∧ ti.implements x' y = true))

theorem NInv.init (ti : TyInfo) : NInv ti [] {} := by
  have no : ∀ {j : Nat} {io : Mem}, ([] : List Mem)[j]? = some io → False := nofun
  exact ⟨fun _ => ⟨fun h => h.elim fun _ h => absurd h.1 List.not_mem_nil, fun ⟨_, _, h, _⟩ => (no h).elim⟩, fun _ _ h => (no h).elim,
    List.forall_mem_nil _, List.forall_mem_nil _, fun _ _ h => (no h).elim⟩

theorem netMember_inv (ti : TyInfo) (loose : Nat → List Ty) (done : List Mem) (s : NF)
    (io : Mem) (inv : NInv ti done s) :
    NInv ti (done ++ [io]) (netMember ti loose s done.length io) := by
  have M := netMember_mem ti loose s done.length io
  simp only at M
  generalize netMember ti loose s done.length io = s' at M ⊢
  have old : ∀ {j : Nat} {jo : Mem}, done[j]? = some jo → (done ++ [io])[j]? = some jo :=
    fun h => getElem?_concat.mpr (Or.inl h)
  have last : (done ++ [io])[done.length]? = some io := getElem?_concat.mpr (Or.inr ⟨rfl, rfl⟩)
  have lt : ∀ {j : Nat} {jo : Mem}, done[j]? = some jo → j < done.length := fun h => (List.getElem?_eq_some_iff.mp h).1
  have resolved : ∀ y ∈ io.1, resolveInput ti loose s.avail y ∈ io.1.map (resolveInput ti loose s.avail) :=
    fun y hy => List.mem_map.mpr ⟨y, hy, rfl⟩
  refine ⟨fun t => ?_, fun j jo h1 t ht => ?_, fun t ht => ?_, fun x hx => ?_, fun i jo h1 y hy => ?_⟩
  · rewrite [(M t).1, inv.keys]
    constructor
    · rintro (⟨j, jo, h1, h2⟩ | h)
      · exact ⟨j, jo, old h1, h2⟩
      · exact ⟨_, io, last, h⟩
    · rintro ⟨j, jo, h1, h2⟩
      rcases getElem?_concat.mp h1 with h | ⟨_, h⟩
      · exact .inl ⟨j, jo, h, h2⟩
      · exact .inr (h ▸ h2)
  · rcases getElem?_concat.mp h1 with h | ⟨_, h⟩
    · rcases inv.outs_seen j jo h t ht with h' | h'
      · exact .inl ((M t).2.1.mpr (.inl h'))
      · exact .inr ((M t).2.2.mpr (.inl h'))
    · subst h
      by_cases hin : t ∈ s'.uniqueIn
      · exact .inl hin
      · refine .inr ((M t).2.2.mpr ?_)
        by_cases hO : t ∈ s.uniqueOut
        · exact .inl hO
        · exact .inr ⟨ht, fun hrs => hin ((M t).2.1.mpr (.inr ⟨hrs, hO⟩)), hin⟩
  · rcases (M t).2.2.mp ht with h | ⟨h, _⟩
    · obtain ⟨j, jo, h1, h2⟩ := inv.uout t h
      exact ⟨j, jo, old h1, h2⟩
    · exact ⟨_, io, last, h⟩
  · by_cases hI : x ∈ s.uniqueIn
    · obtain ⟨i, jo, h1, h2, h3⟩ := inv.exact x hI
      refine ⟨i, jo, old h1, h2, fun j jo' hji hj' => ?_⟩
      rcases getElem?_concat.mp hj' with h' | ⟨h', _⟩
      · exact h3 j jo' hji h'
      · exact absurd (h' ▸ hji) (Nat.lt_asymm (lt h1))
    · obtain ⟨hrs, hO⟩ := ((M x).2.1.mp hx).resolve_left hI
      obtain ⟨y, hy, hxy⟩ := List.mem_map.mp hrs
      -- `x` is new to the loop, so no earlier member produces it and it was not found by matching
      have hnot : ¬ ∃ (j : Nat) (jo : Mem), done[j]? = some jo ∧ x ∈ jo.2 := by
        rintro ⟨j, jo, h1, h2⟩
        exact (inv.outs_seen j jo h1 x h2).elim hI hO
      have hxe : x = y := by
        rcases resolveInput_cases ti loose s.avail y with h' | ⟨h', _⟩
        · rw [← hxy, h']
        · rewrite [hxy] at h'; exact absurd ((inv.keys x).mp h') hnot
      refine ⟨_, io, last, hxe ▸ hy, fun j jo hj hjo hx' => ?_⟩
      rcases getElem?_concat.mp hjo with h' | ⟨h', _⟩
      · exact hnot ⟨j, jo, h', hx'⟩
      · exact absurd (h' ▸ hj) (Nat.lt_irrefl _)
  · rcases getElem?_concat.mp h1 with h | ⟨hi, h⟩
    · obtain ⟨x', hx1, hx2⟩ := inv.suff i jo h y hy
      refine ⟨x', ?_, hx2⟩
      rcases hx1 with h' | ⟨j, jo', hj, hjo, hx'⟩
      · exact .inl ((M x').2.1.mpr (.inl h'))
      · exact .inr ⟨j, jo', hj, old hjo, hx'⟩
    · subst h
      refine ⟨resolveInput ti loose s.avail y, ?_, ?_⟩
      · by_cases hO : resolveInput ti loose s.avail y ∈ s.uniqueOut
        · obtain ⟨j, jo', hjo, hx'⟩ := inv.uout _ hO
          exact .inr ⟨j, jo', hi ▸ lt hjo, old hjo, hx'⟩
        · exact .inl ((M _).2.1.mpr (.inr ⟨resolved y hy, hO⟩))
      · rcases resolveInput_cases ti loose s.avail y with h' | ⟨_, h'⟩
        · exact .inl h'
        · exact .inr h'

theorem netFrom_inv (ti : TyInfo) (loose : Nat → List Ty) (rest done : List Mem) (s : NF) (inv : NInv ti done s) :
    NInv ti (done ++ rest) (netFrom ti loose rest done.length s) := by
  induction rest generalizing done s with
  | nil => rewrite [List.append_nil]; exact inv
  | cons io rest ih =>
    have h := ih (done ++ [io]) _ (netMember_inv ti loose done s io inv)
    rewrite [List.length_append, List.append_assoc] at h
    exact h

theorem netFlows_inv (ti : TyInfo) (loose : Nat → List Ty) (members : List Mem) :
    NInv ti members (netFrom ti loose members 0 {}) :=
  netFrom_inv ti loose members [] {} (NInv.init ti)

theorem returnedGo_mem (ms : List Mem) (above acc : List Ty) (t : Ty) :
    t ∈ returnedToSurroundings.go ms above acc ↔
      t ∈ acc ∨ ∃ (k : Nat) (rk : Mem), ms[k]? = some rk ∧ t ∈ rk.2 ∧ t ∉ above
                  ∧ ∀ (j : Nat) (jo : Mem), j < k → ms[j]? = some jo → t ∉ jo.1 := by
  induction ms generalizing above acc with
  | nil =>
    refine ⟨Or.inl, fun h => h.elim id ?_⟩
    rintro ⟨_, _, h1, _⟩
    cases h1
  | cons m rest ih =>
    obtain ⟨recv, ret⟩ := m
    show t ∈ returnedToSurroundings.go rest (above ++ recv) (addNew above.contains acc ret) ↔ _
    rewrite [ih, mem_addNew_contains]
    constructor
    · rintro ((h | ⟨h1, h2⟩) | ⟨k, rk, h1, h2, h3, h4⟩)
      · exact .inl h
      · exact .inr ⟨0, (recv, ret), rfl, h1, h2, fun j _ hj => absurd hj (Nat.not_lt_zero j)⟩
      · refine .inr ⟨k + 1, rk, h1, h2, fun h => h3 (List.mem_append_left _ h), fun j jo hj hjo => ?_⟩
        cases j with
        | zero =>
          cases Option.some.inj hjo
          exact fun h => h3 (List.mem_append_right _ h)
        | succ j => exact h4 j jo (Nat.lt_of_succ_lt_succ hj) hjo
    · rintro (h | ⟨k, rk, h1, h2, h3, h4⟩)
      · exact .inl (.inl h)
      · cases k with
        | zero =>
          cases Option.some.inj h1
          exact .inl (.inr ⟨h2, h3⟩)
        | succ k =>
          refine .inr ⟨k, rk, h1, h2, fun h => ?_, fun j jo hj hjo => h4 (j + 1) jo (Nat.succ_lt_succ hj) hjo⟩
          rcases List.mem_append.mp h with h | h
          · exact h3 h
          · exact h4 0 (recv, ret) (Nat.succ_pos k) rfl h

end Nject

