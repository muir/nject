import Nject.Validate
import NjectProofs.ListFacts
/-
  Reading and writing a chain by position (`Chain.get`, `Chain.upd`, `List.map`): the few equations every proof about
  the include computation goes through.
-/
namespace Nject.Chain

theorem get_of_lt (ch : Chain) {i : Nat} (h : i < ch.length) : ch.get i = ch[i] := by
  simp [Chain.get, List.getD, List.getElem?_eq_getElem h]

theorem get_of_le (ch : Chain) {i : Nat} (h : ch.length ≤ i) : ch.get i = default := by
  simp [Chain.get, List.getD, List.getElem?_eq_none h]

theorem lt_of_get {ch : Chain} {i : Nat} {P : IP → Prop} (h : P (ch.get i)) (hd : ¬ P default) : i < ch.length :=
  Nat.lt_of_not_le fun hle => hd (get_of_le ch hle ▸ h)

theorem ext_get {a b : Chain} (hl : a.length = b.length) (h : ∀ j, a.get j = b.get j) : a = b :=
  List.ext_getElem hl fun j h1 h2 => by rewrite [← get_of_lt a h1, ← get_of_lt b h2]; exact h j

theorem length_upd (ch : Chain) (i : Nat) (g : IP → IP) : (ch.upd i g).length = ch.length := List.length_set

theorem get_upd (ch : Chain) (i j : Nat) (g : IP → IP) :
    (ch.upd i g).get j = if j = i ∧ j < ch.length then g (ch.get j) else ch.get j := by
  unfold Chain.upd Chain.get List.getD
  rewrite [List.getElem?_set]
  by_cases hji : i = j
  · subst hji
    by_cases hl : i < ch.length <;> simp [hl]
  · simp [hji, Ne.symm hji]

theorem get_upd_ne (ch : Chain) {i j : Nat} (g : IP → IP) (h : j ≠ i) : (ch.upd i g).get j = ch.get j := by
  rw [get_upd, if_neg fun hh => h hh.1]

theorem get_upd_self (ch : Chain) {i : Nat} (g : IP → IP) (h : i < ch.length) : (ch.upd i g).get i = g (ch.get i) := by
  rw [get_upd, if_pos ⟨rfl, h⟩]

theorem proj_upd {α} (φ : IP → α) (ch : Chain) (i j : Nat) {g : IP → IP} (hg : φ (g (ch.get i)) = φ (ch.get i)) :
    φ ((ch.upd i g).get j) = φ (ch.get j) := by
  rewrite [get_upd]; split
  · next h => rw [h.1, hg]
  · rfl

/-- `proj_upd` for a `g` that keeps the field of every record: `rfl` is then asked about a variable, not about `ch.get i`,
    which it would unfold -/
theorem proj_upd' {α} (φ : IP → α) {g : IP → IP} (hg : ∀ f, φ (g f) = φ f) (ch : Chain) (i j : Nat) :
    φ ((ch.upd i g).get j) = φ (ch.get j) :=
  proj_upd φ ch i j (hg _)

theorem get_upd_of {Q : IP → Prop} (ch : Chain) (i j : Nat) {g : IP → IP} (h : Q (ch.get j)) (hg : j = i → Q (g (ch.get j))) :
    Q ((ch.upd i g).get j) := by
  rewrite [get_upd]; split
  · next hj => exact hg hj.1
  · exact h

theorem upd_congr (ch : Chain) (i : Nat) {g g' : IP → IP} (h : g (ch.get i) = g' (ch.get i)) : ch.upd i g = ch.upd i g' := by
  unfold Chain.upd; rw [h]

theorem get_map (ch : Chain) (g : IP → IP) (j : Nat) : Chain.get (ch.map g) j = if j < ch.length then g (ch.get j) else default := by
  unfold Chain.get List.getD
  rewrite [List.getElem?_map]
  by_cases hl : j < ch.length <;> simp [hl]

theorem get_map' (ch : Chain) {g : IP → IP} (hg : g default = default) (j : Nat) : Chain.get (ch.map g) j = g (ch.get j) := by
  rewrite [get_map]; split
  · rfl
  · next h => rw [get_of_le ch (Nat.le_of_not_lt h), hg]

theorem get_foldl_upd (g : IP → IP) (l : List Nat) (ch : Chain) (hnd : l.Nodup) (j : Nat) :
    (l.foldl (fun c i => c.upd i g) ch).get j = if j ∈ l ∧ j < ch.length then g (ch.get j) else ch.get j := by
  induction l generalizing ch with
  | nil => exact (if_neg fun h => List.not_mem_nil h.1).symm
  | cons i l ih =>
    obtain ⟨hi, hl⟩ := List.nodup_cons.mp hnd
    rewrite [List.foldl_cons, ih _ hl, length_upd, get_upd]
    by_cases hji : j = i
    · subst hji; simp [hi]
    · simp [hji]

theorem get_foldl_upd_of_not_mem (g : IP → IP) (l : List Nat) (ch : Chain) (j : Nat) (hj : j ∉ l) :
    (l.foldl (fun c i => c.upd i g) ch).get j = ch.get j := by
  induction l generalizing ch with
  | nil => rfl
  | cons i l ih =>
    rw [List.foldl_cons, ih _ fun h => hj (List.mem_cons_of_mem _ h),
      get_upd_ne ch g fun (e : j = i) => hj (e ▸ List.mem_cons_self)]

theorem proj_foldl_upd {α} (φ : IP → α) {g : IP → IP} {v : α} (l : List Nat) (ch : Chain) (j : Nat)
    (hj : j ∈ l) (hl : j < ch.length) (hg : ∀ f, φ (g f) = v) : φ ((l.foldl (fun c i => c.upd i g) ch).get j) = v := by
  induction l generalizing ch with
  | nil => exact absurd hj List.not_mem_nil
  | cons i l ih =>
    rewrite [List.foldl_cons]
    by_cases hjl : j ∈ l
    · exact ih _ hjl (by rewrite [length_upd]; exact hl)
    · have : j = i := (List.mem_cons.mp hj).resolve_right hjl
      subst this
      rw [get_foldl_upd_of_not_mem g l _ j hjl, get_upd_self ch g hl, hg]

theorem length_foldl_upd (g : Nat → IP → IP) (l : List Nat) (ch : Chain) : (l.foldl (fun c i => c.upd i (g i)) ch).length = ch.length :=
  List.foldlRecOn (motive := fun b => b.length = ch.length) l _ rfl fun b hb i _ => (length_upd b i _).trans hb

theorem foldl_upd_range (ch : Chain) (g : IP → IP) : (List.range ch.length).foldl (fun c i => c.upd i g) ch = ch.map g := by
  refine ext_get (by rw [length_foldl_upd (fun _ => g), List.length_map]) fun j => ?_
  rewrite [get_foldl_upd g _ _ List.nodup_range, get_map]
  by_cases hl : j < ch.length
  · simp [hl]
  · simp [hl, get_of_le ch (Nat.le_of_not_lt hl)]

theorem upd_upd (ch : Chain) (i : Nat) (g g' : IP → IP) : (ch.upd i g').upd i g = ch.upd i fun f => g (g' f) := by
  refine ext_get (by simp only [length_upd]) fun j => ?_
  simp only [get_upd, length_upd]
  by_cases h : j = i ∧ j < ch.length
  · rw [if_pos h, if_pos h, if_pos h]
  · rw [if_neg h, if_neg h, if_neg h]

theorem upd_comm_ne (ch : Chain) {i d : Nat} (hid : i ≠ d) (g g' : IP → IP) : (ch.upd d g').upd i g = (ch.upd i g).upd d g' := by
  refine ext_get (by simp only [length_upd]) fun j => ?_
  simp only [get_upd, length_upd]
  by_cases hj : j = i
  · subst hj; simp only [hid, false_and, if_false]
  · have : ¬ (j = i ∧ j < ch.length) := fun h => hj h.1
    simp only [hj, false_and, if_false]

theorem upd_comm (ch : Chain) (i d : Nat) {g g' : IP → IP} (h : ∀ f, g (g' f) = g' (g f)) :
    (ch.upd d g').upd i g = (ch.upd i g).upd d g' := by
  by_cases hid : i = d
  · subst hid; rewrite [upd_upd, upd_upd]; simp only [h]
  · exact upd_comm_ne ch hid g g'

theorem map_upd (ch : Chain) (i : Nat) {g g' : IP → IP} (h : ∀ f, g (g' f) = g' (g f)) :
    (ch.upd i g').map g = Chain.upd (ch.map g) i g' := by
  refine ext_get (by simp only [length_upd, List.length_map]) fun j => ?_
  rewrite [get_upd, get_map, get_map, length_upd, List.length_map, get_upd]
  by_cases hj : j < ch.length
  · rewrite [if_pos hj, if_pos hj]
    split
    · exact h _
    · rfl
  · rw [if_neg hj, if_neg fun hh => hj hh.2, if_neg hj]

theorem map_range_get {α} (φ : IP → α) (ch : Chain) : (List.range ch.length).map (fun j => φ (ch.get j)) = ch.map φ := by
  apply List.ext_getElem
  · rw [List.length_map, List.length_map, List.length_range]
  · intro k h1 h2
    have hk : k < ch.length := List.length_map (as := ch) φ ▸ h2
    rw [List.getElem_map, List.getElem_map, List.getElem_range, get_of_lt ch hk]

theorem map_upd_absorb {α} (ch : Chain) (i : Nat) {φ : IP → α} {g : IP → IP} (h : ∀ f, φ (g f) = φ f) : (ch.upd i g).map φ = ch.map φ := by
  rewrite [← map_range_get φ (ch.upd i g), ← map_range_get φ ch, length_upd]
  simp only [proj_upd' φ h]

theorem sum_map_upd (φ : IP → Nat) (ch : Chain) (i : Nat) (hi : i < ch.length) (g : IP → IP) :
    ((ch.upd i g).map φ).sum + φ (ch.get i) = (ch.map φ).sum + φ (g (ch.get i)) := by
  unfold Chain.upd
  have := sum_map_set φ ch i (g (ch.get i)) hi
  rewrite [← get_of_lt ch hi] at this
  exact this

theorem upd_eq_self (ch : Chain) (i : Nat) {g : IP → IP} (h : g (ch.get i) = ch.get i) : ch.upd i g = ch := by
  refine ext_get (length_upd ch i g) fun j => ?_
  rewrite [get_upd]; split
  · next hj => rw [hj.1, h]
  · rfl

end Nject.Chain

namespace Nject

theorem initState_rec (funcs : List CP) (cannot0 : List Nat) (j : Nat) (c : CP) (hj : funcs[j]? = some c) :
    (initState funcs cannot0).get j =
      { c := c, pos := j, inc := c.required, cannot := cannot0.contains c.id, mcOut := c.hasMustConsume, mcRet := true,
        wanted := !c.required && !c.desired && c.cls != .finalFunc && (stripUnusedT c.out).isEmpty,
        wantedInCluster := (!c.required && !c.desired && c.cls != .finalFunc && (stripUnusedT c.out).isEmpty) && c.cluster != 0 } := by
  obtain ⟨hjl, hc⟩ := List.getElem?_eq_some_iff.mp hj
  unfold initState Chain.get
  have hz : j < (funcs.zip (List.range funcs.length)).length := by simp [hjl]
  rewrite [List.getD, List.getElem?_map, List.getElem?_eq_getElem hz, List.getElem_zip, List.getElem_range, hc]
  rfl

theorem initState_length (funcs : List CP) (cannot0 : List Nat) : (initState funcs cannot0).length = funcs.length := by
  rw [initState, List.length_map, List.length_zip, List.length_range, Nat.min_self]

theorem initState_fields (funcs : List CP) (cannot0 : List Nat) (j : Nat) :
    ((initState funcs cannot0).get j).clusterMembers = none ∧ ((initState funcs cannot0).get j).excluded = false ∧
    ((initState funcs cannot0).get j).mcOut = ((initState funcs cannot0).get j).c.hasMustConsume ∧
    (j < funcs.length → ((initState funcs cannot0).get j).pos = j ∧ ((initState funcs cannot0).get j).mcRet = true) := by
  by_cases hj : j < funcs.length
  · rewrite [initState_rec funcs cannot0 j _ (List.getElem?_eq_getElem hj)]
    exact ⟨rfl, rfl, rfl, fun _ => ⟨rfl, rfl⟩⟩
  · rewrite [Chain.get_of_le _ (by rewrite [initState_length]; exact Nat.le_of_not_lt hj)]
    exact ⟨rfl, rfl, rfl, fun h => absurd h hj⟩

theorem initState_clusterMembers (funcs : List CP) (cannot0 : List Nat) (j : Nat) :
    ((initState funcs cannot0).get j).clusterMembers = none := (initState_fields funcs cannot0 j).1

theorem initState_c (funcs : List CP) (cannot0 : List Nat) (j : Nat) :
    ((initState funcs cannot0).get j).c = funcs.getD j default := by
  by_cases hj : j < funcs.length
  · rewrite [initState_rec funcs cannot0 j _ (List.getElem?_eq_getElem hj), List.getD, List.getElem?_eq_getElem hj]; rfl
  · rewrite [Chain.get_of_le _ (by rewrite [initState_length]; exact Nat.le_of_not_lt hj), List.getD, List.getElem?_eq_none (Nat.le_of_not_lt hj)]; rfl

/-- the init function is found by class alone -/
theorem initPosOf_cls (l : List CP) :
    initPosOf l = ((l.map (·.cls)).zip (List.range l.length)).findSome? fun (k, i) => if k == .initFunc then some i else none := by
  unfold initPosOf
  rewrite [List.zip_map_left, List.findSome?_map]
  rfl

theorem initPosOf_set (funcs : List CP) (d : Nat) (c c' : CP) (hd : funcs[d]? = some c) (hcls : c'.cls = c.cls) :
    initPosOf (funcs.set d c') = initPosOf funcs := by
  obtain ⟨hdl, rfl⟩ := List.getElem?_eq_some_iff.mp hd
  rw [initPosOf_cls, initPosOf_cls, List.map_set, List.length_set]
  have : c'.cls = (funcs.map (·.cls))[d]'(by rw [List.length_map]; exact hdl) := by rw [List.getElem_map]; exact hcls
  rw [this, List.set_getElem_self]

end Nject
