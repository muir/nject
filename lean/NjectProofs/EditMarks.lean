import NjectProofs.EditProofs
/-
  The named edits (replace.go) read a provider's position index, its name and its three directives -- nothing else.
  Any relabelling `g` of the providers that keeps those five fields commutes with `handleReplaceByName`.
-/
namespace Nject

/-- `g` keeps what the named edits read -/
structure KeepsKeys (g : ENode → ENode) : Prop where
  idx : ∀ n, (g n).idx = n.idx
  origin : ∀ n, (g n).origin = n.origin
  rep : ∀ n, (g n).rep = n.rep
  bef : ∀ n, (g n).bef = n.bef
  aft : ∀ n, (g n).aft = n.aft

variable {g : ENode → ENode}

theorem KeepsKeys.plain (h : KeepsKeys g) (n : ENode) : (g n).plain = n.plain := by
  rw [ENode.plain, ENode.plain, h.rep, h.bef, h.aft]

theorem KeepsKeys.tags (h : KeepsKeys g) (n : ENode) : (g n).tags = n.tags := by
  rw [ENode.tags, ENode.tags, h.rep, h.bef, h.aft]

theorem KeepsKeys.selfTarget (h : KeepsKeys g) (n : ENode) : (g n).selfTarget = n.selfTarget := by
  rw [ENode.selfTarget, ENode.selfTarget, h.rep, h.bef, h.aft, h.origin]

theorem preCheck_map (h : KeepsKeys g) (l : List ENode) : preCheck (l.map g) = preCheck l := by
  induction l with
  | nil => rfl
  | cons n rest ih => simp only [List.map_cons, preCheck, h.tags, h.selfTarget, ih]

theorem nameIndexGo_map (h : KeepsKeys g) (l : List ENode) (ln : Nat) (cur : Option NameEntry) (acc : List NameEntry) :
    nameIndexGo (l.map g) ln cur acc = nameIndexGo l ln cur acc := by
  induction l generalizing ln cur acc with
  | nil => rfl
  | cons n rest ih =>
    rewrite [List.map_cons]
    unfold nameIndexGo
    rewrite [h.origin, h.idx]
    simp only [ih]

theorem nameIndex_map (h : KeepsKeys g) (l : List ENode) : nameIndex (l.map g) = nameIndex l :=
  nameIndexGo_map h l 0 none []

theorem idxs_map (h : KeepsKeys g) (l : List ENode) : idxs (l.map g) = idxs l := by
  simp [idxs, List.map_map, Function.comp_def, h.idx]

theorem takeWhile_map' (p : ENode → Bool) (hp : ∀ n, p (g n) = p n) (l : List ENode) :
    (l.map g).takeWhile p = (l.takeWhile p).map g := by
  rw [List.takeWhile_map, show p ∘ g = p from funext hp]

theorem dropWhile_map' (p : ENode → Bool) (hp : ∀ n, p (g n) = p n) (l : List ENode) :
    (l.map g).dropWhile p = (l.dropWhile p).map g := by
  rw [List.dropWhile_map, show p ∘ g = p from funext hp]

theorem posOf_map (h : KeepsKeys g) (l : List ENode) (k : Option Nat) : posOf (l.map g) k = posOf l k := by
  cases k with
  | none => simp [posOf]
  | some k =>
    simp only [posOf]
    rw [takeWhile_map' (fun n => n.idx != k) (fun n => by simp [h.idx]) l, List.length_map]

theorem headIdx_map (h : KeepsKeys g) (l : List ENode) : headIdx (l.map g) = headIdx l := by
  cases l with
  | nil => rfl
  | cons a l => simp [headIdx, h.idx]

theorem insertAtPos_map (l b : List ENode) (p : Nat) :
    insertAtPos (l.map g) (b.map g) p = (insertAtPos l b p).map g := by
  simp [insertAtPos, List.map_take, List.map_drop]

theorem cutAt_map (h : KeepsKeys g) (l : List ENode) (k : Nat) (p : ENode → Bool) (hp : ∀ n, p (g n) = p n) :
    cutAt (l.map g) k p = ((cutAt l k p).1.map g, (cutAt l k p).2.1.map g, (cutAt l k p).2.2.map g) := by
  have hk : ∀ n, (fun n : ENode => n.idx != k) (g n) = (fun n : ENode => n.idx != k) n := fun n => by simp [h.idx]
  simp only [cutAt]
  rw [dropWhile_map' _ hk, takeWhile_map' _ hk, takeWhile_map' p hp, dropWhile_map' p hp]

theorem relocate_map (h : KeepsKeys g) (l : List ENode) (k : Nat) (p : ENode → Bool)
    (pos pos' : List ENode × List ENode × List ENode → Nat) (hp : ∀ n, p (g n) = p n)
    (hpos : ∀ c : List ENode × List ENode × List ENode, pos' (c.1.map g, c.2.1.map g, c.2.2.map g) = pos c) :
    relocate (l.map g) k p pos' =
      ((relocate l k p pos).1.map g, (relocate l k p pos).2.1.map g, (relocate l k p pos).2.2) := by
  simp only [relocate, cutAt_map h l k p hp, hpos, ← List.map_append, insertAtPos_map, headIdx_map h]

theorem moveBefore_map (h : KeepsKeys g) (cur : List ENode) (n : ENode) (ent : NameEntry) :
    moveBefore (cur.map g) (g n) ent =
      ((moveBefore cur n ent).1.map g, (moveBefore cur n ent).2.1.map g, (moveBefore cur n ent).2.2) := by
  rewrite [moveBefore_eq, moveBefore_eq, h.idx, h.bef]
  exact relocate_map h cur _ _ _ _ (fun x => by rw [h.bef]) fun c => by simp only [← List.map_append, posOf_map h]

theorem moveAfter_map (h : KeepsKeys g) (cur : List ENode) (n : ENode) (ent : NameEntry) :
    moveAfter (cur.map g) (g n) ent =
      ((moveAfter cur n ent).1.map g, (moveAfter cur n ent).2.1.map g, (moveAfter cur n ent).2.2) := by
  rewrite [moveAfter_eq, moveAfter_eq, h.idx, h.aft]
  exact relocate_map h cur _ _ _ _ (fun x => by rw [h.aft]) fun c => by simp only [← List.map_append, posOf_map h]

theorem moveReplace_map (h : KeepsKeys g) (cur : List ENode) (n : ENode) (ent : NameEntry) :
    moveReplace (cur.map g) (g n) ent =
      ((moveReplace cur n ent).1.map g, (moveReplace cur n ent).2.1.map g, (moveReplace cur n ent).2.2.1.map g,
        (moveReplace cur n ent).2.2.2) := by
  rw [moveReplace_eq, moveReplace_eq, h.idx, h.rep]
  dsimp only
  rw [cutAt_map h cur ent.first _ (fun x => by rw [h.origin]), ← List.map_append,
    relocate_map h _ _ _ (replacePos (cutAt cur ent.first fun x => x.origin == n.rep).2.2) _ (fun x => by rw [h.rep]) fun c => by
      simp only [replacePos, ← List.map_append, posOf_map h, headIdx_map h, idxs_map h]]

def EState.mapCur (g : ENode → ENode) (s : EState) : EState := { s with cur := s.cur.map g }

theorem editStep_map (h : KeepsKeys g) (s : EState) :
    editStep (s.mapCur g) = (editStep s).map (Option.map (EState.mapCur g)) := by
  obtain ⟨cur, processed, names, pos⟩ := s
  unfold editStep EState.mapCur
  rw [List.getElem?_map]
  cases cur[pos]? with
  | none => rfl
  | some n =>
    dsimp only [Option.map]
    -- push the map into the branches and compare them one by one: comparing the unfolded wholes is slow
    rw [apply_ite (Except.map _), apply_ite (Except.map _), apply_ite (Except.map _)]
    refine ite_congr (by rw [h.idx, h.plain]) (fun _ => rfl) fun _ =>
      ite_congr (by rw [h.rep]) (fun _ => ?_) fun _ => ite_congr (by rw [h.bef]) (fun _ => ?_) fun _ => ?_
    · rw [h.rep]
      cases lookupName names n.rep with
      | error e => rfl
      | ok ent => simp only [Except.map, Option.map, moveReplace_map h, idxs_map h, posOf_map h]
    · rw [h.bef]
      cases lookupName names n.bef with
      | error e => rfl
      | ok ent => simp only [Except.map, Option.map, moveBefore_map h, idxs_map h, posOf_map h]
    · rw [h.aft]
      cases lookupName names n.aft with
      | error e => rfl
      | ok ent => simp only [Except.map, Option.map, moveAfter_map h, idxs_map h, posOf_map h]

theorem editLoop_map (h : KeepsKeys g) (fuel : Nat) (s : EState) :
    editLoop fuel (s.mapCur g) = (editLoop fuel s).map (List.map g) := by
  induction fuel generalizing s with
  | zero => rfl
  | succ fuel ih =>
    simp only [editLoop, editStep_map h s]
    cases editStep s with
    | error e => rfl
    | ok o =>
      cases o with
      | none => rfl
      | some s' => exact ih s'

theorem handleReplaceByName_map (h : KeepsKeys g) (l : List ENode) :
    handleReplaceByName (l.map g) = (handleReplaceByName l).map (List.map g) := by
  unfold handleReplaceByName
  have hall : (l.map g).all (·.plain) = l.all (·.plain) := by
    simp [List.all_map, Function.comp_def, h.plain]
  rewrite [hall, preCheck_map h, nameIndex_map h, List.length_map]
  split
  · rfl
  · cases preCheck l with
    | some e => rfl
    | none => exact editLoop_map h _ { cur := l, processed := [], names := nameIndex l, pos := 0 }

end Nject
