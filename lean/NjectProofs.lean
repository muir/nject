import NjectProofs.ListFacts
import NjectProofs.ChainLemmas
import NjectProofs.Framed
import NjectProofs.IncludeTable
import NjectProofs.IncludeTrace
import NjectProofs.IncludeAsked
import NjectProofs.IncludeFlows
import NjectProofs.IncludeValidate
import NjectProofs.IncludeFix
import NjectProofs.IncludePrune
import NjectProofs.IncludeFuel
import NjectProofs.IncludeClusters
import NjectProofs.IncludeKeep
import NjectProofs.IncludeSpared
import NjectProofs.IncludeRun
import NjectProofs.IncludeLock
import NjectProofs.IncludeLockPrune
import NjectProofs.ReorderStep
import NjectProofs.ReorderGraph
import NjectProofs.ReorderCore
import NjectProofs.ReorderDeps
import NjectProofs.ReorderLive
import NjectProofs.ReorderTerm
import NjectProofs.ReorderRun
import NjectProofs.SlotArray
import NjectProofs.SpecLemmas
import NjectProofs.Refine
import NjectProofs.Static
import NjectProofs.Machine
import NjectProofs.ConcProofs
import NjectProofs.EditProofs
import NjectProofs.EditMarks
import NjectProofs.HelperProofs
import NjectProofs.CondenseProofs
import NjectProofs.Characterize
