import NjectProps.S7
import NjectProps.C01Supply
import NjectProps.C01C02Bound
import NjectProps.C03Reg
import NjectProps.C03C15
import NjectProps.C03Fixpoint
import NjectProps.C03Keep
import NjectProps.IncludeEnds
import NjectProps.C05NonFinal
import NjectProps.C06
import NjectProps.C07Reg
import NjectProps.Concurrency
import NjectProps.C11
import NjectProps.C12
import NjectProps.C13
import NjectProps.C14MustConsume
import NjectProps.C14Rounds
import NjectProps.C14Desired
import NjectProps.C16
import NjectProps.C17Lists
import NjectProps.C17Algorithm
import NjectProps.C17Order
import NjectProps.C18
import NjectProps.C19
import NjectProps.C20
import NjectProps.Pipeline
