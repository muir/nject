import Nject.ReorderAlg
/-
  The order condition of the placement theorem (`NjectProps/C17Order.lean`,
  `C17_displaced_provider_is_placed_before_its_consumers`) as a decidable check, so that the driver can
  evaluate it on the graph of every generated chain.
-/
namespace Nject

def releasesB (s : TopoS) (q j : Nat) : Bool :=
  (s.outOf q).any (fun t => s.downTypes.lookup t == some j) || (s.recvOf q).any (fun t => s.upTypes.lookup t == some j)

def initReleasesB (fs : List CP) (g : RGraph) (hasInit : Bool) (j : Nat) : Bool :=
  hasInit && match fs.find? (·.cls == .initFunc) with
    | some f => (noNoType f.out).any (fun t => g.downTypes.lookup t == some j)
    | none => false

def okSetB (s : TopoS) (NR : List Nat) (fs : List CP) (g : RGraph) (hasInit : Bool) (m j : Nat) : Bool :=
  (NR.take m).contains j || (decide (s.n < j) && (initReleasesB fs g hasInit j || (NR.take m).any fun q => releasesB s q j))

/-- the order condition of `C17_displaced_provider_is_placed_before_its_consumers`, decidable -/
def liveHypB (ti : TyInfo) (fs : List CP) (hasInit : Bool) (xr kx : Nat) : Bool :=
  let g := buildGraph ti fs hasInit
  let s := topoStatic fs g
  let NR := g.cannotReorder
  let after0 := (buildNodes g).after
  decide (xr < s.n) && !(after0.get xr).isEmpty && decide (kx ≤ NR.length) &&
  ((List.range NR.length).all fun k =>
    match NR[k]? with
    | some p => (after0.get p).all fun j =>
        okSetB s NR fs g hasInit k j || (decide (kx ≤ k) && decide (s.n < j) && releasesB s xr j)
    | none => true) &&
  (after0.get xr).all fun j => okSetB s NR fs g hasInit kx j

/-- the least `kx` for which the order condition holds for the provider at position `xr`, if any -/
def liveHypSearch (ti : TyInfo) (fs : List CP) (hasInit : Bool) (xr : Nat) : Option Nat :=
  (List.range ((buildGraph ti fs hasInit).cannotReorder.length + 1)).find? fun kx => liveHypB ti fs hasInit xr kx

end Nject
