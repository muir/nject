import Nject.Basic
/-
  C17: reorder.go is not transcribed; what it must guarantee about its result is stated as a
  validator that is run on every S3 → S4 pair of dumps of the implementation (verified in
  NjectProps/C17Lists.lean), and as a theorem about moving one provider in a list.
-/
namespace Nject

/-- one provider as reorder sees it: identity and whether it is marked Reorder -/
structure RItem where
  id : Nat
  reorder : Bool
deriving DecidableEq, Repr, Inhabited

/-- the result is a rearrangement of the input in which the providers not marked Reorder keep their
    relative order -/
def reorderValidB (pre post : List RItem) : Bool :=
  (post.map (·.id)).isPerm (pre.map (·.id)) && (post.filter (!·.reorder)) == (pre.filter (!·.reorder))

/-- an item of the list with what Bind later uses positions for -/
structure RItem2 where
  id : Nat
  reorder : Bool
  isInvoke : Bool     -- the invoke function: everything up to it is the static part of the list
  isFinal : Bool
  gaveUp : Bool       -- reorder found its dependencies unmet: it is excluded
deriving DecidableEq, Repr, Inhabited

/-- the part of the list up to and including the invoke function is not touched (Bind keeps using the
    index of the invoke function computed before reordering) -/
def staticPrefixKeptB (pre post : List RItem2) : Bool :=
  let k := (pre.takeWhile (!·.isInvoke)).length + 1
  (post.take k).map (·.id) == (pre.take k).map (·.id)

/-- nothing that can be included follows the final function, unless the final function itself may move -/
def finalLastB (post : List RItem2) : Bool :=
  match post.dropWhile (!·.isFinal) with
  | [] => true
  | fin :: rest => fin.reorder || rest.all (·.gaveUp)

/-- a provider for the displacement theorem: identity, types consumed, types produced -/
structure DP where
  id : Nat
  ins : List Ty
  outs : List Ty
deriving DecidableEq, Repr, Inhabited

/-- the provider a consumer standing after `pre` gets type `t` from: the nearest one before it (C01) -/
def nearestIn (pre : List DP) (t : Ty) : Option Nat :=
  ((pre.filter fun p => p.outs.contains t).getLast?).map (·.id)

/-- source of `t` for provider `y` in chain `l` -/
def sourceOf (l : List DP) (y : Nat) (t : Ty) : Option Nat :=
  nearestIn (l.takeWhile (·.id != y)) t

/-- does `a` come before `b` in `l`? -/
def beforeB (l : List DP) (a b : Nat) : Bool :=
  (l.takeWhile (·.id != b)).any (·.id == a)

/-- the displaced provider `x` sits after every producer of its inputs and before every consumer of
    its outputs -/
def placedOKB (l : List DP) (x : DP) : Bool :=
  (l.all fun p => p.id == x.id || !(p.outs.any fun t => x.ins.contains t) || beforeB l p.id x.id)
  && (l.all fun p => p.id == x.id || !(p.ins.any fun t => x.outs.contains t) || beforeB l x.id p.id)

end Nject
