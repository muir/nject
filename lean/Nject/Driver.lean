import Nject.WF
import Nject.Edit
import Nject.Pipeline
import Nject.Slots
import Nject.Validate
import Nject.Helpers
import Nject.Condense
import Nject.Reorder
import Nject.ReorderAlg
import Nject.ReorderCond
import Nject.PostAct
/-
  Line-protocol driver: reads the case blocks the Go harness writes, rebuilds the compiled
  chain from the implementation's own S7 dump, runs `Exec` and `Spec` with the scripted
  behaviours and prints their traces in the harness's trace syntax.
-/
namespace Nject.Driver
open Nject

def parseNats (s : String) : List Nat :=
  if s == "-" || s == "" then [] else (s.splitOn ",").filterMap String.toNat?

/-- value of `key=` in a token list ("" if absent) -/
def field (toks : List String) (key : String) : String :=
  match toks.find? (fun t => t.startsWith (key ++ "=")) with
  | some t => (t.drop (key.length + 1)).toString
  | none => ""

def fieldNats (toks : List String) (key : String) : List Nat := parseNats (field toks key)
def fieldNat (toks : List String) (key : String) : Nat := (field toks key).toNat?.getD 0
def hasFlag (toks : List String) (key flag : String) : Bool := ((field toks key).splitOn ",").contains flag

/-- "a>b,c>d" -/
def parseRmap (s : String) : List (Nat × Nat) :=
  if s == "-" || s == "" then [] else
  (s.splitOn ",").filterMap fun kv =>
    match kv.splitOn ">" with
    | [a, b] => match a.toNat?, b.toNat? with
      | some x, some y => some (x, y)
      | _, _ => none
    | _ => none

/-- "t:slot,..." ; entries with slot -1 are unmapped -/
def parseVmap (s : String) : List (Nat × Nat) :=
  if s == "-" || s == "" then [] else
  (s.splitOn ",").filterMap fun kv =>
    match kv.splitOn ":" with
    | [a, b] => match a.toNat?, b.toNat? with
      | some x, some y => some (x, y)
      | _, _ => none
    | _ => none

def parseVals (s : String) : List Val :=
  (parseVmap s).map fun p => ⟨p.1, p.2⟩

def remap (rm : List (Nat × Nat)) (ts : List Ty) : List Ty := ts.map fun t => (rm.lookup t).getD t

structure Script where
  idx : Nat
  kind : String
  ins : List Ty
  outs : List Ty
  iin : List Ty
  iout : List Ty
  fail : Nat
  calls : Nat
  pass : Bool
deriving Repr, Inhabited

def cError : Ty := 20
def cTE : Ty := 21
def cUnus : Ty := 22
def cDebug : Ty := 23
def cNoTy : Ty := 30

def dynCode (c : Ty) : Ty :=
  if c == 10 then 5 else if c == 11 then 7 else if c == 12 then 6 else if c == cTE then cError else c

def freshTag (idx k j p : Nat) : Nat := (idx + 1) * 100000 + (k + 1) * 100 + j * 10 + p + 1

def freshOut (s : Script) (oc k j pos : Nat) : Val :=
  if oc == cTE then
    if (s.fail >>> (k % 8)) % 2 == 1 then
      -- (now and then a nil *Err inside a non-nil interface: tag 9999999 -- as an error it is not nil)
      (if (s.idx + k) % 5 == 4 then ⟨cError, 9999999⟩ else ⟨cError, freshTag s.idx k j pos⟩)
    else ⟨cTE, 0⟩
  else if oc == cUnus then ⟨cUnus, 0⟩
  else if oc == cDebug then ⟨cDebug, 0⟩
  else if (oc == 10 || oc == 11) && (s.idx + k) % 4 == 3 then ⟨oc, 0⟩   -- now and then a nil interface value
  else ⟨dynCode oc, freshTag s.idx k j pos⟩

def enumFrom' {α} (l : List α) : List (Nat × α) := (List.range l.length).zip l

def scriptInj (s : Script) (k : Nat) : List Val :=
  (enumFrom' s.outs).map fun (j, oc) => freshOut s oc k 0 j

def indexOf? (l : List Nat) (x : Nat) : Option Nat :=
  (enumFrom' l).findSome? fun (i, y) => if y == x then some i else none

/-- the wrapper script as a behaviour tree: `rem` inner() calls still to make -/
def scriptWrapGo (s : Script) (k : Nat) : Nat → Nat → Option (List Val) → WStep
  | 0, _, last =>
    .ret ((enumFrom' s.outs).map fun (pos, rc) =>
      match last, indexOf? s.iout rc with
      | some vals, some q => if s.pass then vals.getD q ⟨0, 0⟩ else freshOut s rc k 0 pos
      | _, _ => freshOut s rc k 0 pos)
  | rem + 1, j, _ =>
    .call ((enumFrom' s.iin).map fun (pos, ic) => freshOut s ic k j pos)
      (fun vals => scriptWrapGo s k rem (j + 1) (some vals))

def mkBeh (scripts : List Script) : Beh where
  inj := fun id k _ =>
    if id == 900 then [⟨cDebug, 1⟩] else
    match scripts.find? (·.idx == id) with
    | some s => scriptInj s k
    | none => []
  wrap := fun id k _ =>
    if id == 902 then .call [] (fun _ => .ret [⟨cUnus, 0⟩]) else
    match scripts.find? (·.idx == id) with
    | some s => scriptWrapGo s k s.calls 1 none
    | none => .ret []

structure FLine where
  id : Nat
  cls : String
  group : String
  inc : Bool
  ret : List Ty
  out : List Ty
  inp : List Ty
  recv : List Ty
  byp : List Ty
  drm : List (Nat × Nat)
  urm : List (Nat × Nat)
  brm : List (Nat × Nat)
  zs : List Ty
  zi : List Ty
  ei : Nat
  memo : Bool
  parallel : Bool
  singleton : Bool
  required : Bool := false
  desired : Bool := false
  shun : Bool := false
  wanted : Bool := false
  synthetic : Bool := false
  reorder : Bool := false
  gaveUp : Bool := false          -- reorder: "dependencies not met, excluded"
deriving Repr, Inhabited

def parseF (toks : List String) : FLine :=
  { id := fieldNat toks "id", cls := field toks "class", group := field toks "group",
    inc := fieldNat toks "inc" == 1,
    ret := fieldNats toks "ret", out := fieldNats toks "out", inp := fieldNats toks "in",
    recv := fieldNats toks "recv", byp := fieldNats toks "byp",
    drm := parseRmap (field toks "drm"), urm := parseRmap (field toks "urm"), brm := parseRmap (field toks "brm"),
    zs := fieldNats toks "zs", zi := fieldNats toks "zi", ei := fieldNat toks "ei",
    memo := hasFlag toks "flags" "memoized", parallel := hasFlag toks "flags" "parallel",
    singleton := hasFlag toks "flags" "singleton", required := hasFlag toks "flags" "required",
    desired := hasFlag toks "flags" "desired", shun := hasFlag toks "flags" "shun",
    wanted := hasFlag toks "flags" "wanted", synthetic := hasFlag toks "flags" "synthetic",
    reorder := hasFlag toks "flags" "reorder",
    gaveUp := ((field toks "why").splitOn "dependencies_not_met").length > 1 }

def parseScript (toks : List String) : Script :=
  { idx := (toks.getD 1 "0").toNat?.getD 0, kind := field toks "kind",
    ins := fieldNats toks "in", outs := fieldNats toks "out", iin := fieldNats toks "iin", iout := fieldNats toks "iout",
    fail := fieldNat toks "fail", calls := fieldNat toks "calls", pass := fieldNat toks "pass" == 1 }

def parsePDesc (toks : List String) : PDesc :=
  let k := field toks "kind"
  { idx := (toks.getD 1 "0").toNat?.getD 0,
    kind := if k == "lit" then .lit else if k == "wrap" then .wrap else .func,
    ins := fieldNats toks "in", outs := fieldNats toks "out", iin := fieldNats toks "iin", iout := fieldNats toks "iout",
    required := hasFlag toks "ann" "required", desired := hasFlag toks "ann" "desired", shun := hasFlag toks "ann" "shun",
    cacheable := hasFlag toks "ann" "cacheable" || hasFlag toks "ann" "mustcache" || hasFlag toks "ann" "memoize" || hasFlag toks "ann" "singleton",
    mustCache := hasFlag toks "ann" "mustcache" || hasFlag toks "ann" "singleton",
    notCacheable := hasFlag toks "ann" "notcacheable", memoize := hasFlag toks "ann" "memoize",
    singleton := hasFlag toks "ann" "singleton", nonFinal := hasFlag toks "ann" "nonfinal",
    reorder := hasFlag toks "ann" "reorder", parallel := hasFlag toks "ann" "parallel", refl := hasFlag toks "ann" "refl",
    loose := fieldNats toks "loose", mustConsume := fieldNats toks "mc", consOpt := fieldNats toks "co",
    shadowOK := fieldNats toks "sh", cluster := fieldNat toks "cluster" }

def toNode (f : FLine) : Node :=
  let kind : Kind :=
    if f.cls == "wrapper-func" then .wrapper
    else if f.cls == "fallible-injector" then .fallible
    else if f.cls == "final-func" then .final
    else .inj
  { id := f.id, kind := kind,
    ins := remap f.drm (f.inp.filter (· != cNoTy)),
    outs := f.out, rets := f.ret, recv := remap f.urm f.recv, zero := f.zi,
    errIdx := f.ei, memo := f.memo, parallel := f.parallel }

def toSNode (f : FLine) : SNode :=
  { id := f.id, fallible := f.cls == "fallible-static-injector",
    ins := remap f.drm f.inp, outs := f.out, zero := f.zs, errIdx := f.ei,
    memo := f.memo, singleton := f.singleton }

def litValue (f : FLine) : Val :=
  let t := f.out.headD 0
  if f.id == 901 then ⟨cUnus, 0⟩ else ⟨t, freshTag f.id 0 0 0⟩

def mkCompiled (vcount : Nat) (fs : List FLine) (dv uv : List (Nat × Nat)) : Option Compiled :=
  let inc := fs.filter (·.inc)
  let fins := inc.filter (·.group == "final")
  let invs := inc.filter (·.cls == "invoke-func")
  match fins, invs with
  | [fin], [inv] =>
    let initF := (inc.filter (·.cls == "init-func")).head?
    some {
      vcount := vcount, errTy := cError, dmap := dv, umap := uv,
      lits := (inc.filter (·.group == "literal")).map fun f => (f.out.headD 0, litValue f),
      -- the static sequence: literal values and static injectors in listed order
      statics := (inc.filter fun f => f.group == "static" || f.group == "literal").map fun f =>
        if f.group == "literal" then { id := f.id, lit := some (litValue f), outs := [f.out.headD 0] } else toSNode f,
      run := (inc.filter (·.group == "run")).map toNode,
      fin := toNode fin,
      invokeOuts := inv.out, invokeRecv := remap inv.urm inv.recv,
      init := initF.map fun f => { outs := f.out, bypass := remap f.brm f.byp } }
  | _, _ => none

/-! ### printing -/

def fmtVal (v : Val) : String := s!"{v.ty}:{v.tag}"
def fmtVals (vs : List Val) : String := if vs.isEmpty then "-" else ",".intercalate (vs.map fmtVal)

def fmtEv : Ev → Option String
  | .call id a o => if id >= 900 then none else some s!"call {id} {fmtVals a} -> {fmtVals o}"
  | .wenter id a => if id >= 900 then none else some s!"wenter {id} {fmtVals a}"
  | .winner id a => if id >= 900 then none else some s!"winner {id} {fmtVals a}"
  | .wrecv id a => if id >= 900 then none else some s!"wrecv {id} {fmtVals a}"
  | .wret id a => if id >= 900 then none else some s!"wret {id} {fmtVals a}"
  | .bad id => some s!"bad {id}"

structure CaseAcc where
  n : String := ""
  scripts : List Script := []
  flines : List FLine := []       -- of the S7 dump
  inS7 : Bool := false
  stage : String := ""
  s3 : List FLine := []           -- reversed
  s4 : List FLine := []           -- reversed
  vcount : Nat := 0
  dv : List (Nat × Nat) := []
  uv : List (Nat × Nat) := []
  bindOk : Bool := false
  ops : List (String × List Val) := []
  enodes : List ENode := []        -- pre-edit list (reversed)
  pdescs : List PDesc := []        -- reversed
  invSig : Sig := ⟨[], []⟩
  initSig : Option Sig := none
deriving Inhabited

def fmtEditErr : EditErr → String
  | .twoTags => "E_EDIT_TWO_TAGS"
  | .missing => "E_EDIT_MISSING"
  | .dup => "E_EDIT_DUP"
  | .selfTarget => "E_EDIT_SELF"
  | .fuel => "FUEL"

/-- S1: the model's edited order -/
def runEdit (a : CaseAcc) : String :=
  match editAll a.enodes.reverse with
  | .ok l => "m1 ok " ++ (if l.isEmpty then "-" else ",".intercalate (l.map fun n => toString n.idx))
  | .error e => "m1 err " ++ fmtEditErr e

def classStr : ClassT → String
  | .unsetClassType => "?" | .fallibleInjectorFunc => "fallible-injector"
  | .fallibleStaticInjectorFunc => "fallible-static-injector" | .injectorFunc => "injector"
  | .wrapperFunc => "wrapper-func" | .finalFunc => "final-func" | .staticInjectorFunc => "static-injector"
  | .literalValue => "literal-value" | .initFunc => "init-func" | .invokeFunc => "invoke-func"

def groupStr : GroupT → String
  | .invokeGroup => "invoke" | .literalGroup => "literal" | .staticGroup => "static" | .runGroup => "run"
  | .finalGroup => "final"

def fmtTys (l : List Ty) : String := if l.isEmpty then "-" else ",".intercalate (l.map toString)

def fmtCP (c : CP) : String :=
  s!"{c.id}:{classStr c.cls}:{groupStr c.group}:{fmtTys c.ret}/{fmtTys c.out}/{fmtTys c.inp}/{fmtTys c.recv}/{fmtTys c.byp}"

/-- S2/S3: the model's assembled function list -/
def runAssemble (a : CaseAcc) : List String :=
  match editAll a.enodes.reverse with
  | .error _ => []
  | .ok order =>
    let provs := order.filterMap fun n => a.pdescs.find? (·.idx == n.idx)
    match assemble provs a.invSig a.initSig with
    | none => ["m3 err E_CLASSIFY"]
    | some asm => [s!"m3 ok inv={asm.invokeIndex} " ++ " ".intercalate (asm.funcs.map fmtCP)]

def sortNat (l : List Nat) : List Nat := (l.toArray.qsort (· < ·)).toList

def fmtRm (m : List (Ty × Ty)) : String :=
  if m.isEmpty then "-" else
  let strs := (m.map fun p => s!"{p.1}>{p.2}").toArray.qsort (· < ·)
  ",".intercalate strs.toList

def fmtBindErr : BindErr → String
  | .edit e => fmtEditErr e
  | .classify => "E_CLASSIFY"
  | .required => "E_REQUIRED"
  | .wanted => "E_WANTED"
  | .internal => "E_INTERNAL"
  | .shadow => "E_SHADOW"
  | .initType => "E_INIT_TYPE"
  | .fuel => "FUEL"

def dedup (l : List Nat) : List Nat := l.foldl (fun acc x => if acc.contains x then acc else acc ++ [x]) []

/-- S5/S6: the model's include flags, remaps, slot partition and zero lists -/
def hasReorder (a : CaseAcc) : Bool := a.pdescs.any (·.reorder)

/-- C17 validators on the implementation's S3 → S4 dumps -/
def runReorderCheck (a : CaseAcc) : List String :=
  if a.s4.isEmpty then [] else
  let item := fun (f : FLine) => ({ id := f.id, reorder := f.reorder } : RItem)
  let item2 := fun (f : FLine) => ({ id := f.id, reorder := f.reorder, isInvoke := f.cls == "invoke-func",
                                     isFinal := f.cls == "final-func", gaveUp := f.gaveUp } : RItem2)
  let ok := fun (b : Bool) => if b then "ok" else "bad"
  [s!"m4 {ok (reorderValidB (a.s3.reverse.map item) (a.s4.reverse.map item))} prefix={ok (staticPrefixKeptB (a.s3.reverse.map item2) (a.s4.reverse.map item2))} final={ok (finalLastB (a.s4.reverse.map item2))} reorder={if hasReorder a then 1 else 0} gaveup={fmtTys ((a.s4.filter (·.gaveUp)).map (·.id))}"]

/-- S4: the model of reorder.go on the model's own assembled list -/
def runReorderModel (a : CaseAcc) : List String :=
  if a.s4.isEmpty then [] else
  match editAll a.enodes.reverse with
  | .error _ => []
  | .ok order =>
    let provs := order.filterMap fun n => a.pdescs.find? (·.idx == n.idx)
    match assemble provs a.invSig a.initSig with
    | none => []
    | some asm =>
      let (fs, gave, fuelOut) := reorderModel stdTyInfo asm.funcs a.initSig.isSome
      -- the order condition of the placement theorem, for every provider still marked Reorder
      let cfs := clearReorder asm.funcs
      let live := (List.range cfs.length).filterMap fun i =>
        if (cfs.getD i default).reorder then
          some (match liveHypSearch stdTyInfo cfs a.initSig.isSome i with
            | some kx => s!"{(cfs.getD i default).id}:{kx}"
            | none => s!"{(cfs.getD i default).id}:none")
        else none
      [s!"m4o order={fmtTys (fs.map (·.id))} gaveup={fmtTys gave} fuel={if fuelOut then "FUEL" else "ok"}",
       "m4live " ++ (if live.isEmpty then "-" else " ".intercalate live)]

/-- the hypotheses of the fixpoint theorems (NjectProps/C03Fixpoint.lean), evaluated on the model's own state
    before the final validation -/
def runDepsCheck (a : CaseAcc) : List String :=
  let order4 := if hasReorder a && !a.s4.isEmpty then some (a.s4.reverse.map (·.id)) else none
  let cannot4 := (a.s4.filter (·.gaveUp)).map (·.id)
  match editAll a.enodes.reverse with
  | .error _ => []
  | .ok order =>
    let provs := order.filterMap fun n => a.pdescs.find? (·.idx == n.idx)
    match assemble provs a.invSig a.initSig with
    | none => []
    | some asm0 =>
      let funcs? := match order4 with
        | none => some asm0.funcs
        | some o => permuteTo asm0.funcs o
      match funcs? with
      | none => []
      | some funcs =>
        match inclusionBeforeFinal stdTyInfo funcs cannot4 with
        | .error _ => []
        | .ok pre => [s!"m5deps sym={if depsSymB pre then "ok" else "bad"} prov={if provOKB pre then "ok" else "bad"}"]

def runBindModel (a : CaseAcc) : List String :=
  let order4 := if hasReorder a && !a.s4.isEmpty then some (a.s4.reverse.map (·.id)) else none
  let cannot4 := (a.s4.filter (·.gaveUp)).map (·.id)
  match bindModel stdTyInfo a.enodes.reverse a.pdescs a.invSig a.initSig order4 cannot4 with
  | .error e => ["m5 err " ++ fmtBindErr e]
  | .ok bo =>
    let fl := bo.chain.map fun f =>
      s!"{f.c.id}:{if f.inc then 1 else 0}:{fmtRm f.downRmap}:{fmtRm f.upRmap}:{fmtRm f.bypassRmap}:{if f.wanted then 1 else 0}"
    let zl := bo.chain.filterMap fun f =>
      if !f.inc then none else
      let zs := sortNat (dedup ((bo.slots.zskip.lookup f.pos).getD []))
      let zi := sortNat (dedup ((bo.slots.zinner.lookup f.pos).getD []))
      some s!"{f.c.id}:{fmtTys zs}:{fmtTys zi}"
    -- the dependency lists after the final flow computation, as provider ids
    let idAt := fun (p : Nat) => (bo.chain.get p).c.id
    let fmtIds := fun (l : List Nat) => if l.isEmpty then "-" else ",".intercalate (l.map fun p => toString (idAt p))
    let ul := bo.chain.map fun f => s!"{f.c.id}:{fmtIds f.uses}:{fmtIds f.usedBy}"
    -- the same relation per flow (0 returns, 1 outputs, 2 inputs, 3 received, 4 bypass) and per requested type
    let fmtDet := fun (flow : Nat) (m : List (Ty × List Nat)) =>
      (m.filter (fun e => !e.2.isEmpty)).map fun e => (flow, e.1, s!"{flow}/{e.1}>{fmtIds e.2}")
    let sortDet := fun (l : List (Nat × Nat × String)) =>
      (l.toArray.qsort (fun a b => a.1 < b.1 || (a.1 == b.1 && a.2.1 < b.2.1))).toList.map (·.2.2)
    let joinDet := fun (l : List String) => if l.isEmpty then "-" else ";".intercalate l
    let dl := bo.chain.map fun f =>
      let ud := sortDet (fmtDet 2 f.usesIn ++ fmtDet 3 f.usesRecv ++ fmtDet 4 f.usesByp)
      let ubd := sortDet (fmtDet 1 f.usedByOut ++ fmtDet 0 f.usedByRet)
      s!"{f.c.id}:{joinDet ud}:{joinDet ubd}"
    [ "m5 ok " ++ " ".intercalate fl,
      "m5u " ++ " ".intercalate ul,
      "m5d " ++ " ".intercalate dl,
      s!"m6 vcount={bo.slots.st.count} d={fmtTys (sortNat (bo.slots.st.dmap.map (·.1)))} u={fmtTys (sortNat (bo.slots.st.umap.map (·.1)))} z " ++ " ".intercalate zl ]

def classOfStr (s : String) : ClassT :=
  if s == "fallible-injector" then .fallibleInjectorFunc else if s == "fallible-static-injector" then .fallibleStaticInjectorFunc
  else if s == "injector" then .injectorFunc else if s == "wrapper-func" then .wrapperFunc else if s == "final-func" then .finalFunc
  else if s == "static-injector" then .staticInjectorFunc else if s == "literal-value" then .literalValue
  else if s == "init-func" then .initFunc else if s == "invoke-func" then .invokeFunc else .unsetClassType

def groupOfStr (s : String) : GroupT :=
  if s == "literal" then .literalGroup else if s == "static" then .staticGroup else if s == "run" then .runGroup
  else if s == "final" then .finalGroup else .invokeGroup

/-- the implementation's bound chain (S7 dump + the providers' annotations) as a model `Chain` -/
def dumpChain (a : CaseAcc) : Chain :=
  let fs := a.flines.reverse
  (fs.zip (List.range fs.length)).map fun (f, i) =>
    let d := a.pdescs.find? (·.idx == f.id)
    let c : CP :=
      { id := f.id, cls := classOfStr f.cls, group := groupOfStr f.group,
        ret := f.ret, out := f.out, inp := f.inp, recv := f.recv, byp := f.byp,
        required := f.required, desired := f.desired, shun := f.shun, synthetic := f.synthetic,
        loose := (d.map (·.loose)).getD [], mustConsume := (d.map (·.mustConsume)).getD [],
        consOpt := if f.id == 901 || f.id == 902 then [tUnused] else (d.map (·.consOpt)).getD [],
        shadowOK := (d.map (·.shadowOK)).getD [], cluster := (d.map (·.cluster)).getD 0 }
    { c := c, pos := i, inc := f.inc, wanted := f.wanted, downRmap := f.drm, upRmap := f.urm, bypassRmap := f.brm }

def idsOrDash (l : List Nat) : String := if l.isEmpty then "-" else ",".intercalate (l.map toString)

/-- validators on the implementation's own bound chain -/
def runValidators (a : CaseAcc) : List String :=
  let ch := dumpChain a
  let okf (b : Bool) : String := if b then "ok" else "fail"
  [ "v5 consumed " ++ okf (returnsConsumedB ch),
    "v5 required " ++ okf (requiredIncludedB ch),
    "v5 shadow " ++ okf (checkShadowing ch),
    s!"v5 unjustified {idsOrDash (unjustifiedSplit ch).1}",
    s!"v5 unjustified_f5 {idsOrDash (unjustifiedSplit ch).2}",
    s!"v5 mustconsume {idsOrDash (mustConsumeOKB ch)}",
    s!"v5 mctaken {idsOrDash (mustConsumeTakenB ch)}",
    s!"v5 loose {idsOrDash (looseOKB ch)}",
    s!"v5 loose_f5 {idsOrDash (looseF5B ch)}" ]

/-- run all ops through Exec and Spec; returns output lines -/
def runCase (a : CaseAcc) : List String :=
  if !a.bindOk then [s!"case {a.n}", runEdit a] ++ runAssemble a ++ runReorderCheck a ++ runReorderModel a ++ runBindModel a ++ runDepsCheck a ++ ["skip nobind", "end"] else
  match mkCompiled a.vcount a.flines.reverse a.dv a.uv with
  | none => [s!"case {a.n}", runEdit a] ++ runAssemble a ++ runReorderCheck a ++ runReorderModel a ++ runBindModel a ++ runDepsCheck a ++ ["skip nodump", "end"]
  | some c =>
    let b := mkBeh a.scripts
    let wf := match checkWF c with
      | none => "wf ok"
      | some r => s!"wf fail {r}"
    let sup := if checkSupply c then "supply ok" else "supply fail"
    -- Exec
    let (xl, _) := a.ops.reverse.foldl (fun (acc : List String × Bound) op =>
      let (ls, s) := acc
      let before := s.st.trace.length
      let (res, s') := if op.1 == "init" then c.execInit b s op.2 else c.execInvoke b s op.2
      let evs := (s'.st.trace.drop before).filterMap fmtEv
      (ls ++ evs.map ("x " ++ ·) ++ [s!"x ret {fmtVals res}"], s')) ([], c.bindState)
    let (sl, _) := a.ops.reverse.foldl (fun (acc : List String × SBound) op =>
      let (ls, s) := acc
      let before := s.st.trace.length
      let (res, s') := if op.1 == "init" then c.specInit b s op.2 else c.specInvoke b s op.2
      let evs := (s'.st.trace.drop before).filterMap fmtEv
      (ls ++ evs.map ("s " ++ ·) ++ [s!"s ret {fmtVals res}"], s')) ([], c.specBindState)
    let (fl, fnode) := (buildProg c.run c.fin).flatten
    let prog := if fl.map (·.id) == c.run.map (·.id) && fnode.id == c.fin.id then "prog ok" else "prog fail"
    [s!"case {a.n}", runEdit a] ++ runAssemble a ++ runReorderCheck a ++ runReorderModel a ++ runBindModel a ++ runDepsCheck a ++ runValidators a ++ [wf, sup, prog] ++ xl ++ sl ++ ["end"]


/-! ### C20 helper records -/

def runCurryLine (toks : List String) : String :=
  let i := toks.getD 1 "?"
  let o := fieldNats toks "o"
  let n := fieldNats toks "n"
  match curryModel (fun _ => false) o (fieldNats toks "oo") n (fieldNats toks "no") with
  | none => s!"mcurry {i} err"
  | some m =>
    let args := (List.range n.length).map fun j => s!"a{j}"
    let res := curriedCall m o.length args (m.curried.map fun _ => "c")
    let src := ",".intercalate (res.map fun | some x => x | none => "INVALID")
    s!"mcurry {i} ok src={src} curried={fmtTys m.curried}"

def tagOfStr (s : String) : FTag :=
  if s == "skip" || s == "-" then .skip else if s == "nofill" then .nofill else if s == "fill" then .fill
  else if s == "whole" || s == "blob" then .whole else if s == "fields" then .fields else .unknown

mutual
/-- desc := NAT | '(' NAT '|' field (';' field)* ')' ;  field := ('X'|'x') ':' tags ':' desc -/
partial def parseFDesc (cs : List Char) : Option (FDesc × List Char) :=
  match cs with
  | '(' :: rest =>
    let (num, rest) := rest.span Char.isDigit
    match rest with
    | '|' :: rest =>
      match parseFFields rest with
      | some (fs, ')' :: rest) => some (.struct (String.ofList num).toNat! fs, rest)
      | _ => none
    | _ => none
  | _ =>
    let (num, rest) := cs.span Char.isDigit
    if num.isEmpty then none else some (.leaf (String.ofList num).toNat!, rest)
partial def parseFFields (cs : List Char) : Option (FFields × List Char) :=
  match cs with
  | ')' :: _ => some (.nil, cs)
  | ';' :: rest => parseFFields rest
  | e :: ':' :: rest =>
    let (tagS, rest) := rest.span (· != ':')
    match rest with
    | ':' :: rest =>
      match parseFDesc rest with
      | some (d, rest) =>
        match parseFFields rest with
        | some (fs, rest) =>
          let tags := if String.ofList tagS == "none" then [] else ((String.ofList tagS).splitOn "+").map tagOfStr
          some (.cons (e == 'X') tags d fs, rest)
        | none => none
      | none => none
    | _ => none
  | _ => none
end

def fmtPath (p : Path) : String := ".".intercalate (p.map toString)

def runFillerLine (toks : List String) : String :=
  let i := toks.getD 1 "?"
  match parseFDesc (field toks "s").toList with
  | some (d, []) =>
    let supply : Ty → Nat := fun t => if t ≥ 100 || t == 44 then 77 else 1000 + t
    let existing := fieldNat toks "ex" == 1
    match d.inputs [], (if existing then fillerFieldsExisting d supply 55 else fillerFields d supply) with
    | some ins, some fl =>
      let f := ",".intercalate (fl.map fun pv => s!"{fmtPath pv.1}={pv.2}")
      -- with FillExisting the first input is the struct (pointer) itself: code 98
      s!"mfiller {i} ok inputs={fmtTys ((if existing then [98] else []) ++ ins.map (·.2))} fields={if f.isEmpty then "-" else f}"
    | _, _ => s!"mfiller {i} err"
  | _ => s!"mfiller {i} parse-error"

def runSaveToLine (toks : List String) : String :=
  let i := toks.getD 1 "?"
  let ts := fieldNats toks "types"
  let st := saveToCall ts.length (ts.map fun t => 1000 + t)
  let f := ",".intercalate (st.map fun | some v => toString v | none => "unset")
  s!"msaveto {i} ok stored={f}"


/-! ### post-actions -/

def parsePTag (s : String) : PTag :=
  if s == "skip" || s == "-" then .skip else if s == "nofill" then .nofill else if s == "fill" then .fill
  else if s.startsWith "pa" then .custom ((s.drop 2).toString.toNat?.getD 0) else .unknown

def parsePFields (s : String) : List PField :=
  if s == "-" || s == "" then [] else
  (s.splitOn ";").map fun f =>
    match f.splitOn ":" with
    | [e, t, tags] => { exported := e == "X", ty := t.toNat?.getD 0,
                        tags := if tags == "none" then [] else (tags.splitOn "+").map parsePTag }
    | _ => { exported := false, ty := 0, tags := [] }

def parseFn (s : String) : FnKind :=
  if s == "anyval" then .anyval else if s == "anyopen" then .anyopen
  else if s.startsWith "anyopenx" then .anyopenX ((s.drop 8).toString.toNat?.getD 0)
  else if s.startsWith "ptr" then .ptr ((s.drop 3).toString.toNat?.getD 0)
  else .val ((s.drop 3).toString.toNat?.getD 0)

def parsePAOpts (s : String) : List (Nat × PAOpt) :=
  if s == "-" || s == "" then [] else
  (s.splitOn ",").filterMap fun e =>
    match e.splitOn "/" with
    | [k, fn, fl] => some (k.toNat?.getD 0, { fn := parseFn fn, fillSet := fl != "-", fill := fl == "t" })
    | _ => none

def runPostActLine (toks : List String) : String :=
  let i := toks.getD 1 "?"
  let fields := parsePFields (field toks "fields")
  let opts : PAOptions := { byTag := parsePAOpts (field toks "bytag"), byName := parsePAOpts (field toks "byname"),
                            byType := (parsePAOpts (field toks "bytype")).map (·.2), pointerModel := fieldNat toks "ptr" == 1 }
  match paPlan opts fields with
  | none => s!"mpostact {i} err"
  | some plan =>
    let (log, final) := paRun plan fields (fun t => 1000 + t) (fun t => 5000 + t)
    let kindS := fun (k : PAKind) => match k with | .tag => "tag" | .name => "name" | .type => "type"
    let acts := ",".intercalate (log.map fun (a, seen) => s!"{kindS a.kind}:{a.ty}:{if a.ptr then "p" else "v"}:{seen}")
    let exportedFinal := (fields.zip final).filterMap fun (f, v) => if f.exported then some (toString v) else none
    let extras := plan.acts.filterMap (·.extra)
    s!"mpostact {i} ok inputs={fmtTys (sortNat (dedup (((fields.zip plan.filled).filterMap fun (f, b) => if b then some f.ty else none) ++ extras)))} acts={if acts.isEmpty then "-" else acts} final={if exportedFinal.isEmpty then "-" else ",".intercalate exportedFinal}"

def runCondenseFlows (a : CaseAcc) : String :=
  match condenseFlows stdTyInfo a.pdescs.reverse with
  | none => s!"mflows {a.n} none"
  | some f => s!"mflows {a.n} in={fmtTys f.downIn} out={fmtTys f.upOut} true={fmtTys f.upOut} upnet={fmtTys f.upNet}"

def stepLine (a : CaseAcc) (line : String) : CaseAcc × List String :=
  let toks := (line.splitOn " ").filter (· != "")
  match toks with
  | "case" :: n :: _ => ({ n := n }, [])
  | "p" :: _ => ({ a with scripts := parseScript toks :: a.scripts, pdescs := parsePDesc toks :: a.pdescs }, [])
  | "invoke" :: _ => ({ a with invSig := ⟨fieldNats toks "in", fieldNats toks "out"⟩ }, [])
  | "init" :: "none" :: _ => ({ a with initSig := none }, [])
  | "init" :: _ => ({ a with initSig := some ⟨fieldNats toks "in", fieldNats toks "out"⟩ }, [])
  | "e" :: i :: _ =>
    ({ a with enodes := { idx := i.toNat?.getD 0, origin := fieldNat toks "origin", rep := fieldNat toks "rep",
                          bef := fieldNat toks "bef", aft := fieldNat toks "aft",
                          nonFinal := fieldNat toks "nf" == 1, gen := fieldNat toks "gen" == 1,
                          inf := fieldNat toks "inf" == 1 } :: a.enodes }, [])
  | "dump" :: stage :: _ =>
    if stage == "S7" then ({ a with inS7 := true, stage := stage, flines := [], vcount := fieldNat toks "vcount" }, [])
    else if stage == "S3" then ({ a with inS7 := false, stage := stage, s3 := [] }, [])
    else if stage == "S4" then ({ a with inS7 := false, stage := stage, s4 := [] }, [])
    else ({ a with inS7 := false, stage := stage }, [])
  | "f" :: _ =>
    if a.inS7 then ({ a with flines := parseF toks :: a.flines }, [])
    else if a.stage == "S3" then ({ a with s3 := parseF toks :: a.s3 }, [])
    else if a.stage == "S4" then ({ a with s4 := parseF toks :: a.s4 }, [])
    else (a, [])
  | ["dv", s] => ({ a with dv := parseVmap s }, [])
  | ["uv", s] => ({ a with uv := parseVmap s }, [])
  | "bind" :: "ok" :: _ => ({ a with bindOk := true }, [])
  | "op" :: kind :: vals :: _ => ({ a with ops := (kind, parseVals vals) :: a.ops }, [])
  | "end" :: _ => ({}, runCase a)
  | "cflows" :: _ => (a, [runCondenseFlows a])
  | "postact" :: _ => (a, [runPostActLine toks])
  | "curry" :: _ => (a, [runCurryLine toks])
  | "filler" :: _ => (a, [runFillerLine toks])
  | "saveto" :: _ => (a, [runSaveToLine toks])
  | _ => (a, [])

partial def loop (h : IO.FS.Stream) (a : CaseAcc) : IO Unit := do
  let line ← h.getLine
  if line.isEmpty then return ()
  let line := (line.dropEndWhile (fun c => c == '\n' || c == '\r')).toString
  let (a', out) := stepLine a line
  for l in out do IO.println l
  loop h a'

def main : IO Unit := do
  loop (← IO.getStdin) {}

end Nject.Driver
