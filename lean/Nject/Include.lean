import Nject.Pipeline
/-
  S5: which providers are included (include.go `computeDependenciesAndInclusion`, match.go
  `bestMatch`), as a functional transcription over a list indexed by chain position.
-/
namespace Nject

/-- what the harness type universe knows about a type (match.go scoring) -/
structure TyInfo where
  isIface : Ty → Bool
  implements : Ty → Ty → Bool     -- concrete → interface
  numMethods : Ty → Nat

def stdTyInfo : TyInfo :=
  { isIface := fun t => t == 10 || t == 11 || t == 12 || t == 20 || t == 21
    implements := fun c i =>
      (i == 10 && (c == 5 || c == 6 || c == 12)) || (i == 11 && (c == 6 || c == 7 || c == 12)) || (i == 12 && c == 6)
      -- error / TerminalError are interfaces with the same method set: each implements the other
      || (i == 20 && c == 21) || (i == 21 && c == 20)
    numMethods := fun t => if t == 5 || t == 7 || t == 10 || t == 11 || t == 20 || t == 21 then 1 else if t == 6 || t == 12 then 2 else 0 }

/-- per-provider working data (`provider` + `includeWorkingData`) -/
structure IP where
  c : CP
  pos : Nat := 0
  cannot : Bool := false
  inc : Bool := false
  excluded : Bool := false
  wanted : Bool := false
  wantedInCluster : Bool := false
  mcOut : Bool := false
  mcRet : Bool := false
  downRmap : List (Ty × Ty) := []
  upRmap : List (Ty × Ty) := []
  bypassRmap : List (Ty × Ty) := []
  usesIn : List (Ty × List Nat) := []
  usesRecv : List (Ty × List Nat) := []
  usesByp : List (Ty × List Nat) := []
  errIn : List Ty := []
  errRecv : List Ty := []
  errByp : List Ty := []
  uses : List Nat := []
  usedBy : List Nat := []
  usedByOut : List (Ty × List Nat) := []
  usedByRet : List (Ty × List Nat) := []
  clusterMembers : Option (List Nat) := none
deriving Repr, Inhabited

abbrev Chain := List IP

def Chain.get (ch : Chain) (i : Nat) : IP := ch.getD i default
def Chain.upd (ch : Chain) (i : Nat) (f : IP → IP) : Chain := ch.set i (f (ch.get i))

/-- assoc-list update: set key -/
def setKey (m : List (Ty × Ty)) (k v : Ty) : List (Ty × Ty) :=
  if m.any (·.1 == k) then m.map fun p => if p.1 == k then (k, v) else p else m ++ [(k, v)]

def appendAt (m : List (Ty × List Nat)) (k : Ty) (v : Nat) : List (Ty × List Nat) :=
  if m.any (·.1 == k) then m.map fun p => if p.1 == k then (k, p.2 ++ [v]) else p else m ++ [(k, [v])]

/-- `interfaceMap`: type ↦ (layer of its first provider, providers in order) -/
abbrev IMap := List (Ty × Nat × List Nat)

def IMap.add (m : IMap) (t : Ty) (layer : Nat) (p : Nat) : IMap :=
  if m.any (·.1 == t) then m.map fun e => if e.1 == t then (t, e.2.1, e.2.2 ++ [p]) else e
  else m ++ [(t, layer, [p])]

/-- lexicographic `aGreaterBInts` on equal-length score lists -/
def scoreGE : List Nat → List Nat → Bool
  | a :: as, b :: bs => if a > b then true else if a < b then false else scoreGE as bs
  | _, _ => true

/-- match.go `bestMatch`: `(found type, dependsOn)` or `none` -/
def bestMatch (ti : TyInfo) (loose : Nat → List Ty) (m : IMap) (want : Ty) : Option (Ty × List Nat) :=
  match m.find? (·.1 == want) with
  | some e => some (want, e.2.2)
  | none =>
    if !ti.isIface want then none else
    let cands := m.filter fun e => ti.implements e.1 want
    -- highest (layer, samePkg = 1, numMethods, typeCode); the harness universe has no ties before typeCode
    let best := cands.foldl (fun (b : Option (Ty × Nat × List Nat)) e =>
      match b with
      | none => some e
      | some be =>
        if scoreGE [e.2.1, ti.numMethods e.1, e.1] [be.2.1, ti.numMethods be.1, be.1] then some e else some be) none
    match best with
    | none => none
    | some be =>
      let ls := be.2.2.filter fun p => (loose p).contains want
      if ls.isEmpty then none else some (be.1, ls)

inductive Param where
  | inp | recv | byp
deriving DecidableEq, Repr

/-- `requireParameters` for provider `i` -/
def requireParams (ti : TyInfo) (ch : Chain) (i : Nat) (avail : IMap) (param : Param) : Chain :=
  let fm := ch.get i
  let flow := match param with | .inp => fm.c.inp | .recv => fm.c.recv | .byp => fm.c.byp
  let isDown := param != .recv
  -- reset
  let ch := ch.upd i fun f => match param with
    | .inp => { f with usesIn := [], errIn := [] }
    | .recv => { f with usesRecv := [], errRecv := [] }
    | .byp => { f with usesByp := [], errByp := [] }
  (flow.filter (· != tNoType)).foldl (fun ch t =>
    match bestMatch ti (fun p => (ch.get p).c.loose) avail t with
    | none => ch.upd i fun f => match param with
        | .inp => { f with errIn := f.errIn ++ [t] }
        | .recv => { f with errRecv := f.errRecv ++ [t] }
        | .byp => { f with errByp := f.errByp ++ [t] }
    | some (found, deps) =>
      let ch := ch.upd i fun f => match param with
        | .inp => { f with downRmap := setKey f.downRmap t found }
        | .recv => { f with upRmap := setKey f.upRmap t found }
        | .byp => { f with bypassRmap := setKey f.bypassRmap t found }
      deps.foldl (fun ch d =>
        let ch := ch.upd i fun f => match param with
          | .inp => { f with usesIn := appendAt f.usesIn t d, uses := f.uses ++ [d] }
          | .recv => { f with usesRecv := appendAt f.usesRecv t d, uses := f.uses ++ [d] }
          | .byp => { f with usesByp := appendAt f.usesByp t d, uses := f.uses ++ [d] }
        let ch := ch.upd d fun g =>
          if isDown then { g with usedBy := g.usedBy ++ [i], usedByOut := appendAt g.usedByOut t i }
          else { g with usedBy := g.usedBy ++ [i], usedByRet := appendAt g.usedByRet t i }
        let dmc := if isDown then (ch.get d).mcOut else (ch.get d).mcRet
        if dmc then ch.upd i fun f => { f with usedBy := f.usedBy ++ [d] } else ch) ch) ch

def provideParams (ch : Chain) (i : Nat) (avail : IMap) (down : Bool) (layer : Nat) : Chain × IMap :=
  let fm := ch.get i
  let ch := ch.upd i fun f => if down then { f with usedByOut := [] } else { f with usedByRet := [] }
  let flow := if down then fm.c.out else fm.c.ret
  -- (an `Unused` is on offer only from the automatic providers, invoke and init: include.go provideParameters)
  (ch, (flow.filter (fun t => t != tNoType && (t != tUnused || fm.c.synthetic))).foldl (fun m t => m.add t layer i) avail)

/-- `providesReturns` -/
def providesReturns (ti : TyInfo) (ch : Chain) (initPos : Option Nat) : Chain :=
  let n := ch.length
  let ch := ch.map fun f => { f with usedByOut := [], usedByRet := [], usesIn := [], usesRecv := [], usesByp := [],
                                       uses := [], errIn := [], errRecv := [], errByp := [], usedBy := [] }
  let (ch, _) := (List.range n).foldl (fun (acc : Chain × IMap) i =>
    let (ch, avail) := acc
    if (ch.get i).cannot then acc else
    let ch :=
      match initPos with
      | some ip =>
        if (ch.get i).c.cls == .invokeFunc then
          requireParams ti (ch.upd ip fun f => { f with bypassRmap := [] }) ip avail .byp
        else ch
      | none => ch
    let ch := requireParams ti ch i avail .inp
    provideParams ch i avail true (i + 2)) (ch, ([] : IMap))
  let (ch, _) := (List.range n).reverse.foldl (fun (acc : Chain × IMap) i =>
    let (ch, avail) := acc
    if (ch.get i).cannot then acc else
    let ch := requireParams ti ch i avail .recv
    provideParams ch i avail false (n - i + 2)) (ch, ([] : IMap))
  ch

inductive IncErr where
  | required | wanted | internal | fuel
deriving DecidableEq, Repr, Inhabited

/-- does provider `fm` still have what it needs among the currently included providers? -/
def localCheck (ch : Chain) (fm : IP) : Bool :=
  fm.errIn.isEmpty && fm.errRecv.isEmpty && fm.errByp.isEmpty
  && (fm.usesIn ++ fm.usesRecv ++ fm.usesByp).all (fun e => e.2.any fun p => (ch.get p).inc)
  && (!fm.mcOut || fm.c.out.all fun t =>
        !fm.c.mustConsume.contains t || t == tUnused ||
        ((fm.usedByOut.lookup t).getD []).any fun p => (ch.get p).inc)
  && (!fm.mcRet || fm.c.ret.all fun t =>
        fm.c.consOpt.contains t || t == tUnused ||
        ((fm.usedByRet.lookup t).getD []).any fun p => (ch.get p).inc)

/-- one pass of the `checkFlows` worklist over `todo`; returns the new chain and the redo list -/
def checkPass (canRemoveDesired : Bool) :
    List Nat → Chain → List Nat → List Nat → Except IncErr (Chain × List Nat)
  | [], ch, _, redo => .ok (ch, redo)
  | i :: todo, ch, seen, redo =>
    if seen.contains i then checkPass canRemoveDesired todo ch seen redo else
    let seen := i :: seen
    let fm := ch.get i
    if fm.cannot then
      if fm.c.required then .error .required
      else if (fm.wanted || fm.c.desired) && !canRemoveDesired && !fm.excluded then .error .wanted
      else if fm.inc then
        checkPass canRemoveDesired todo (ch.upd i fun f => { f with inc := false }) seen (redo ++ fm.usedBy)
      else checkPass canRemoveDesired todo ch seen redo
    else if localCheck ch fm then checkPass canRemoveDesired todo ch seen redo
    else checkPass canRemoveDesired todo (ch.upd i fun f => { f with cannot := true }) seen (redo ++ [i])

def checkFlows (canRemoveDesired : Bool) : Nat → List Nat → Chain → Except IncErr Chain
  | 0, _, _ => .error .fuel
  | fuel + 1, todo, ch =>
    if todo.isEmpty then .ok ch else
    match checkPass canRemoveDesired todo ch [] [] with
    | .error e => .error e
    | .ok (ch, redo) => checkFlows canRemoveDesired fuel redo ch

/-- first loop of `validateChainMarkIncludeExclude`: everything not excluded is assumed included -/
def markAll : List Nat → Chain → List Nat → Except IncErr (Chain × List Nat)
  | [], ch, rem => .ok (ch, rem)
  | i :: rest, ch, rem =>
    if !(ch.get i).excluded then markAll rest (ch.upd i fun f => { f with inc := true, cannot := false }) (rem ++ [i])
    else if (ch.get i).c.required then .error .required
    else markAll rest (ch.upd i fun f => { f with cannot := true, inc := false }) rem

/-- `validateChainMarkIncludeExclude` -/
def validate (canRemoveDesired : Bool) (ch : Chain) : Except IncErr Chain :=
  match markAll (List.range ch.length) ch [] with
  | .error e => .error e
  | .ok (ch, rem) => checkFlows canRemoveDesired (4 * ch.length * ch.length + 8) rem ch

/-- `eliminateUnused` -/
def eliminateUnused : Nat → List Nat → Chain → Chain
  | 0, _, ch => ch
  | _, [], ch => ch
  | fuel + 1, i :: check, ch =>
    let fm := ch.get i
    if fm.c.required || fm.c.desired || fm.wanted || !fm.inc || fm.excluded || fm.c.cluster != 0 then
      eliminateUnused fuel check ch
    else if fm.usedBy.any fun d => (ch.get d).inc then eliminateUnused fuel check ch
    else
      eliminateUnused fuel (check ++ fm.uses)
        (ch.upd i fun f => { f with inc := false, cannot := true, excluded := true })

/-- keep-closure of one direction of `proposeEliminations` -/
def keepClosure (ch : Chain) (down : Bool) : Nat → List Nat → List Nat → List Nat
  | 0, _, keep => keep
  | _, [], keep => keep
  | fuel + 1, i :: toKeep, keep =>
    if keep.contains i then keepClosure ch down fuel toKeep keep else
    let fm := ch.get i
    let srcs := if down then fm.usesIn ++ fm.usesByp else fm.usesRecv
    let next := srcs.filterMap fun e =>
      let deps := e.2.filter fun d => !(ch.get d).cannot && !(ch.get d).excluded
      if down then deps.getLast? else deps.head?
    keepClosure ch down fuel (toKeep ++ next.filter fun k => !(i :: keep).contains k) (i :: keep)

def proposeEliminations (ch : Chain) : List Nat :=
  let n := ch.length
  let seeds := (List.range n).filter fun i =>
    let fm := ch.get i
    !fm.excluded && (fm.c.required || fm.c.desired || (fm.wanted && !fm.wantedInCluster))
  -- (fuel: one step per entry of the work list, which starts with the seeds and grows by at most one entry per
  --  requested type of a provider when that provider is first kept; proved sufficient: `C03_keep_closure_fuel_is_enough`, `NjectProps/IncludeEnds.lean`)
  let fuel := n + (ch.map fun f => (f.usesIn ++ f.usesByp).length + f.usesRecv.length).sum + 8
  let kept := keepClosure ch true fuel seeds [] ++ keepClosure ch false fuel seeds []
  ((List.range n).filter fun i => (ch.get i).c.shun)
  ++ ((List.range n).filter fun i => !kept.contains i && !(ch.get i).c.shun)

/-- `tryWithout` -/
def tryWithout (ch : Chain) (without : List Nat) : Chain :=
  match without with
  | [w] =>
    if (ch.get w).wanted && (ch.get w).wantedInCluster then ch else
    let ch1 := ch.upd w fun f => { f with excluded := true }
    match validate false ch1 with
    | .ok ch2 => ch2
    | .error _ => -- state as left by the failed validation is overwritten by the next one; restore the flag
      ch1.upd w fun f => { f with excluded := false }
  | _ =>
    let ch1 := without.foldl (fun ch w => ch.upd w fun f =>
      { f with excluded := true, wanted := if f.wantedInCluster then false else f.wanted }) ch
    let restore (c : Chain) (ok : Bool) : Chain := without.foldl (fun c w => c.upd w fun f =>
      { f with excluded := ok, wanted := if f.wantedInCluster then true else f.wanted }) c
    match validate false ch1 with
    | .ok ch2 => restore ch2 true
    | .error _ => restore ch1 false

def initState (funcs : List CP) (cannot0 : List Nat := []) : Chain :=
  (funcs.zip (List.range funcs.length)).map fun (c, i) =>
    let autoDesired := !c.required && !c.desired && c.cls != .finalFunc && (stripUnusedT c.out).isEmpty
    { c := c, pos := i, inc := c.required, cannot := cannot0.contains c.id,
      mcOut := c.hasMustConsume, mcRet := true,
      wanted := autoDesired, wantedInCluster := autoDesired && c.cluster != 0 }

/-- cluster leaders -/
def clusters (ch : Chain) : Chain :=
  (List.range ch.length).foldl (fun (acc : Chain × List (Nat × Nat)) i =>
    let (ch, leaders) := acc
    let fm := ch.get i
    if fm.c.cluster == 0 || fm.excluded then acc else
    let (ch, leaders) :=
      match leaders.lookup fm.c.cluster with
      | some l => ((ch.upd l fun f => { f with clusterMembers := some ((f.clusterMembers.getD []) ++ [i]) }).upd i
                    (fun f => { f with clusterMembers := none }), leaders)
      | none => (ch.upd i fun f => { f with clusterMembers := some [i] }, leaders ++ [(fm.c.cluster, i)])
    let ch := if !fm.c.required && !fm.c.desired && fm.wanted then ch.upd i fun f => { f with wantedInCluster := true } else ch
    (ch, leaders)) (ch, ([] : List (Nat × Nat))) |>.1

/-- one round: try to eliminate every proposed provider -/
def proposalRound (ch : Chain) : Chain :=
  (proposeEliminations ch).foldl (fun ch i =>
    let fm := ch.get i
    if fm.excluded then ch
    else if fm.c.cluster != 0 then
      match fm.clusterMembers with
      | some ms => tryWithout ch ms
      | none => ch
    else tryWithout ch [i]) ch

def countExcluded (ch : Chain) : Nat := (ch.filter (·.excluded)).length

/-- repeat the round until nothing more is eliminated -/
def proposalLoop : Nat → Chain → Chain
  | 0, ch => ch
  | fuel + 1, ch =>
    let ch' := proposalRound ch
    if countExcluded ch' == countExcluded ch then ch' else proposalLoop fuel ch'

/-- position of the init function in the list, if there is one -/
def initPosOf (funcs : List CP) : Option Nat :=
  (funcs.zip (List.range funcs.length)).findSome? fun (c, i) => if c.cls == .initFunc then some i else none

/-- include.go:78-137: first flow computation and validation with nothing excluded -/
def firstValidation (ti : TyInfo) (funcs : List CP) (cannot0 : List Nat := []) : Except IncErr Chain :=
  validate true (providesReturns ti (initState funcs cannot0) (initPosOf funcs))

/-- include.go:139-192: drop what cannot be included, clusters, unused providers, trial eliminations -/
def pruneStages (ch : Chain) : Chain :=
  let ch := ch.map fun f => if f.cannot then { f with excluded := true, inc := false } else f
  let ch := clusters ch
  let n := ch.length
  -- (fuel: one step per entry of the work list, which grows by a provider's `uses` when it is eliminated --
  --  at most once each; proved sufficient: `C03_unused_elimination_fuel_is_enough`, `NjectProps/IncludeEnds.lean`)
  let ch := eliminateUnused (n + (ch.map (·.uses.length)).sum + 8) (List.range n) ch
  let ch := proposalLoop (n + 1) ch
  ch.map fun f => { f with cannot := f.excluded }

/-- `computeDependenciesAndInclusion` (after reorder) up to the final recomputation of the flows
    over the survivors (include.go:194-212); what is left is the final validation -/
def inclusionBeforeFinal (ti : TyInfo) (funcs : List CP) (cannot0 : List Nat := []) : Except IncErr Chain :=
  match firstValidation ti funcs cannot0 with
  | .error e => .error e
  | .ok ch => .ok (providesReturns ti (pruneStages ch) (initPosOf funcs))

/-- `computeDependenciesAndInclusion` (after reorder) -/
def computeInclusion (ti : TyInfo) (funcs : List CP) (cannot0 : List Nat := []) : Except IncErr Chain :=
  match inclusionBeforeFinal ti funcs cannot0 with
  | .error e => .error e
  | .ok ch =>
    match validate true ch with
    | .error _ => .error .internal
    | .ok ch => .ok ch

end Nject
