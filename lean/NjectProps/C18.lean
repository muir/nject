import NjectProofs.EditMarks
/-
  C18 — named edits produce exactly the edited list.
  `handleReplaceByName` / `editAll` are the Lean model of replace.go (tied to /repo by the S1
  correspondence: random lists on every run, all lists of length ≤ 4 in the thorough tier).
  The edits look at a provider's name and directives only (C18 / C05): whatever NonFinal marks the providers carry, and
  whether they are listed themselves or through a generator, the edited list is the same list with the same marks on the
  same providers, and an edit error is the same error (`C18_named_edits_ignore_marks`).
-/
namespace Nject

/-- every provider without an edit tag keeps its relative order -/
theorem C18_others_keep_order (l r : List ENode) (h : handleReplaceByName l = .ok r) :
    (r.filter (·.plain)).Sublist (l.filter (·.plain)) :=
  (handleReplaceByName_inv l r h).plain

/-- nothing is invented or duplicated, and the only providers that disappear are ones named like
    the target of some ReplaceNamed directive -/
theorem C18_only_replaced_targets_disappear (l r : List ENode) (h : handleReplaceByName l = .ok r) :
    ∃ removed, l.Perm (removed ++ r) ∧ ∀ x ∈ removed, ∃ n ∈ l, n.rep ≠ 0 ∧ x.origin = n.rep :=
  (handleReplaceByName_inv l r h).perm

/-- without directives the list is untouched -/
theorem C18_no_directive_no_change (l : List ENode) (h : l.all (·.plain) = true) :
    handleReplaceByName l = .ok l := by
  simp [handleReplaceByName, h]

/-- two edit tags on one provider make Bind fail -/
theorem C18_two_tags_fails (l : List ENode) (n : ENode) (hn : n ∈ l) (ht : n.tags > 1) :
    ∃ e, handleReplaceByName l = .error e := by
  have hnp : n.plain = false := by
    cases hp : n.plain with
    | false => rfl
    | true =>
      simp only [ENode.plain, Bool.and_eq_true, beq_iff_eq] at hp
      simp [ENode.tags, hp.1.1, hp.1.2, hp.2] at ht
  have hall : ¬ l.all (·.plain) = true := fun hb => by
    rewrite [List.all_eq_true.mp hb n hn] at hnp; cases hnp
  obtain ⟨e, he⟩ := preCheck_of_two_tags l ⟨n, hn, ht⟩
  refine ⟨e, ?_⟩
  rw [handleReplaceByName, if_neg hall, he]

/-- a missing or duplicated target makes the step that handles the directive fail -/
theorem C18_missing_target_fails (names : List NameEntry) (name : Nat)
    (h : names.find? (·.name == name) = none) : lookupName names name = .error .missing := by
  simp [lookupName, h]

theorem C18_duplicated_target_fails (names : List NameEntry) (name : Nat) (e : NameEntry)
    (h : names.find? (·.name == name) = some e) (hd : e.dup = true) : lookupName names name = .error .dup := by
  simp [lookupName, h, hd]

theorem editStep_error_of_lookup (s : EState) (n : ENode) (hn : s.cur[s.pos]? = some n)
    (hproc : n.idx ∉ s.processed) (hbef : n.bef ≠ 0) (hrep : n.rep = 0) (e : EditErr)
    (hl : lookupName s.names n.bef = .error e) : editStep s = .error e :=
  editStep_error_of_lookup_any s n hn hproc (ENode.plain_false (.inr (.inl hbef))) e
    (by rewrite [if_neg (by simp [hrep]), if_pos (by simpa using hbef)]; exact hl)

/-- InsertBeforeNamed: the tagged block (adjacent providers with the same tag, in order) ends up
    contiguous and immediately before the target's first provider; everything else keeps its order -/
theorem C18_insert_before_lands_before_target (cur : List ENode) (n : ENode) (ent : NameEntry)
    (hpres : ent.first ∈ idxs ((cutAt cur n.idx (·.bef == n.bef)).1 ++ (cutAt cur n.idx (·.bef == n.bef)).2.2)) :
    ∃ a b, (moveBefore cur n ent).1 = a ++ (moveBefore cur n ent).2.1 ++ b ∧ headIdx b = some ent.first ∧
      a ++ b = (cutAt cur n.idx (·.bef == n.bef)).1 ++ (cutAt cur n.idx (·.bef == n.bef)).2.2 := by
  refine ⟨_, _, rfl, posOf_drop_head _ _ hpres, List.take_append_drop _ _⟩

/-- InsertAfterNamed: the block is inserted right after position of the target's last provider -/
theorem C18_insert_after_lands_after_target (cur : List ENode) (n : ENode) (ent : NameEntry)
    (hpres : ent.last ∈ idxs ((cutAt cur n.idx (·.aft == n.aft)).1 ++ (cutAt cur n.idx (·.aft == n.aft)).2.2)) :
    ∃ a b, (moveAfter cur n ent).1 = a ++ (moveAfter cur n ent).2.1 ++ b ∧
      headIdx (a.drop (a.length - 1)) = some ent.last ∧
      a ++ b = (cutAt cur n.idx (·.aft == n.aft)).1 ++ (cutAt cur n.idx (·.aft == n.aft)).2.2 := by
  refine ⟨_, _, rfl, ?_, List.take_append_drop _ _⟩
  generalize (cutAt cur n.idx (·.aft == n.aft)).1 ++ (cutAt cur n.idx (·.aft == n.aft)).2.2 = cur2 at hpres
  obtain ⟨pre, x, post, rfl, hx, hp⟩ := posOf_split cur2 ent.last hpres
  have ht : (pre ++ x :: post).take (pre.length + 1) = pre ++ [x] := by
    rewrite [List.take_append, List.take_of_length_le (Nat.le_succ _), Nat.add_sub_cancel_left]; rfl
  rewrite [hp, ht, List.length_append, List.length_singleton, Nat.add_sub_cancel, List.drop_left]
  exact congrArg some hx

/-- ReplaceNamed: the removed target block consists of providers named like the target, and the tagged
    block is inserted contiguously -/
theorem C18_replace_puts_block_in (cur : List ENode) (n : ENode) (ent : NameEntry) :
    ∃ a b, (moveReplace cur n ent).1 = a ++ (moveReplace cur n ent).2.2.1 ++ b ∧
      (∀ x ∈ (moveReplace cur n ent).2.1, x.origin = n.rep) :=
  ⟨_, _, rfl, moveReplace_removed_named cur n ent⟩

/-- set the three marks of every provider by arbitrary rules -/
def remark (a b c : ENode → Bool) (n : ENode) : ENode := { n with nonFinal := a n, gen := b n, inf := c n }

theorem remark_keeps (a b c : ENode → Bool) : KeepsKeys (remark a b c) :=
  ⟨fun _ => rfl, fun _ => rfl, fun _ => rfl, fun _ => rfl, fun _ => rfl⟩

/-- **named edits ignore NonFinal and generator marks** -/
theorem C18_named_edits_ignore_marks (l : List ENode) (a b c : ENode → Bool) :
    handleReplaceByName (l.map (remark a b c)) = (handleReplaceByName l).map (List.map (remark a b c)) :=
  handleReplaceByName_map (remark_keeps a b c) l

/-- in particular the same lists are refused, with the same error -/
theorem C18_edit_errors_ignore_marks (l : List ENode) (a b c : ENode → Bool) (e : EditErr) :
    handleReplaceByName (l.map (remark a b c)) = .error e ↔ handleReplaceByName l = .error e := by
  rewrite [C18_named_edits_ignore_marks]
  cases handleReplaceByName l with
  | error e' => simp [Except.map]
  | ok r => simp [Except.map]

/-- [x(after A), c, A₁, A₂, y(before A), z(replace B), B] ↦ [c, y, A₁, A₂, x, z] -/
example : (match handleReplaceByName
    [ { idx := 0, origin := 1, aft := 2 }, { idx := 1, origin := 1 }, { idx := 2, origin := 2 }, { idx := 3, origin := 2 },
      { idx := 4, origin := 1, bef := 2 }, { idx := 5, origin := 1, rep := 3 }, { idx := 6, origin := 3 } ] with
    | .ok r => idxs r
    | .error _ => []) = [1, 4, 2, 3, 0, 5] := by decide +kernel

/-- non-vacuity: marking the moved provider NonFinal and listing the target through a generator changes nothing in where
    the edit puts them -/
example : (match handleReplaceByName ([ { idx := 0, origin := 1, aft := 2 }, { idx := 1, origin := 1 }, { idx := 2, origin := 2 } ].map
      (remark (fun n => n.idx == 0) (fun n => n.idx == 2) (fun _ => false))) with
    | .ok r => idxs r
    | .error _ => []) = [1, 2, 0] := by decide +kernel

end Nject
