import Nject.Classify
/-
  C03 (classification part), over the REGENERATED registry; apart from the C03 theorems about the include computation, so
  that a changed table is charged to C03 alone.
-/
namespace Nject

/-- the final function is Required by classification (regenerated table): every FINAL entry sets it -/
theorem C03_final_is_required :
    Gen.handlerRegistry.all (fun e => e.group != .finalGroup || e.required) = true := by decide

end Nject
