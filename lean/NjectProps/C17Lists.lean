import Nject.Reorder
import NjectProofs.ListFacts
/-
  C17 — a Reorder'd injector may be listed anywhere.

  About results of `reorder` as lists, whatever produced them (the algorithm: `C17Algorithm.lean`, `C17Order.lean`):

  * the validators that are run on every S3 → S4 pair of dumps of the implementation are sound
    (`C17_validator_sound`, `C17_static_prefix_kept`, `C17_final_last`): when they accept, the result is
    a rearrangement in which providers not marked Reorder keep their relative order, the part of
    the list up to the invoke function is untouched and nothing includable follows the final
    function;
  * `C17_displacement_preserves_sources`: for ALL chains and ALL placements that respect the two
    dependency constraints (after every producer of its inputs, before every consumer of its
    outputs), moving the one provider of its output types changes the source of no input of any
    provider.  The placement constraints are exactly what `placedOKB` decides; the later stages
    (which provider supplies what, given an order) are the include/slot/exec models of C01–C03.
    The proof shows for each of three kinds of (consumer, type) that the source is determined by the
    list without the displaced provider, which the two lists share.

  Tied to /repo per run by: the validators on generated chains with Reorder'd injectors and
  wrappers; S5/S6/S7 correspondence of those chains on the order reorder chose; displacement
  pairs (every plain injector of a chain with unique sources, to every other position).
-/
namespace Nject

theorem C17_validator_sound (pre post : List RItem) (h : reorderValidB pre post = true) :
    (post.map (·.id)).Perm (pre.map (·.id))
    ∧ post.filter (fun r => !r.reorder) = pre.filter (fun r => !r.reorder) := by
  unfold reorderValidB at h
  simp only [Bool.and_eq_true, List.isPerm_iff, beq_iff_eq] at h
  exact h

/-- in particular the ids of the providers not marked Reorder appear in the listed order -/
theorem C17_others_keep_listed_order (pre post : List RItem) (h : reorderValidB pre post = true) :
    (post.filter (fun r => !r.reorder)).map (·.id) = (pre.filter (fun r => !r.reorder)).map (·.id) := by
  rw [(C17_validator_sound pre post h).2]

theorem C17_static_prefix_kept (pre post : List RItem2) (h : staticPrefixKeptB pre post = true) :
    (post.take ((pre.takeWhile (!·.isInvoke)).length + 1)).map (·.id)
      = (pre.take ((pre.takeWhile (!·.isInvoke)).length + 1)).map (·.id) := by
  unfold staticPrefixKeptB at h
  exact eq_of_beq h

theorem C17_final_last (post : List RItem2) (h : finalLastB post = true) (a b : List RItem2) (fin : RItem2)
    (hsplit : post = a ++ fin :: b) (ha : ∀ p ∈ a, p.isFinal = false) (hf : fin.isFinal = true)
    (hnr : fin.reorder = false) : ∀ p ∈ b, p.gaveUp = true := by
  unfold finalLastB at h
  have hd : post.dropWhile (fun r => !r.isFinal) = fin :: b := by
    rewrite [hsplit, List.dropWhile_append_of_pos (by intro p hp; simp [ha p hp])]
    simp [hf]
  rewrite [hd] at h
  simp only [hnr, Bool.false_or, List.all_eq_true] at h
  exact h

example : reorderValidB [⟨0, false⟩, ⟨1, true⟩, ⟨2, false⟩] [⟨0, false⟩, ⟨2, false⟩, ⟨1, true⟩] = true := by decide +kernel
example : reorderValidB [⟨0, false⟩, ⟨1, true⟩, ⟨2, false⟩] [⟨2, false⟩, ⟨0, false⟩, ⟨1, true⟩] = false := by decide +kernel

/-- hypotheses on one chain: ids identify providers; `x` is placed after the producers of its inputs
    and before the consumers of its outputs -/
structure Placed (l : List DP) (x : DP) : Prop where
  mem : x ∈ l
  nodup : (l.map (·.id)).Nodup
  after_producers : ∀ p ∈ l, p.id ≠ x.id → (∃ t ∈ p.outs, t ∈ x.ins) → beforeB l p.id x.id = true
  before_consumers : ∀ p ∈ l, p.id ≠ x.id → (∃ t ∈ p.ins, t ∈ x.outs) → beforeB l x.id p.id = true

theorem mem_takeWhile_of_before {l : List DP} {a y : Nat} (h : beforeB l a y = true) :
    ∃ p ∈ l.takeWhile (·.id != y), p.id = a := by
  unfold beforeB at h
  simp only [List.any_eq_true, beq_iff_eq] at h
  exact h

theorem mem_of_mem_filter_ne {l l' : List DP} {x : DP}
    (hrest : l'.filter (·.id != x.id) = l.filter (·.id != x.id)) {p : DP} (hp : p ∈ l') (hne : p.id ≠ x.id) : p ∈ l := by
  have : p ∈ l'.filter (·.id != x.id) := List.mem_filter.mpr ⟨hp, bne_iff_ne.mpr hne⟩
  rewrite [hrest] at this
  exact (List.mem_filter.mp this).1

/-- case A: a type the displaced provider does not produce -/
theorem source_other_type (l : List DP) (x : DP) (hx : x ∈ l) (hnd : (l.map (·.id)).Nodup)
    (y : Nat) (hy : y ≠ x.id) (t : Ty) (ht : t ∉ x.outs) :
    sourceOf l y t = nearestIn ((l.filter (·.id != x.id)).takeWhile (·.id != y)) t := by
  unfold sourceOf nearestIn
  rewrite [← takeWhile_filter_comm (fun (p : DP) => p.id != y) (fun (p : DP) => p.id != x.id)
        (fun a ha => bne_iff_ne.mpr fun h => hy ((bne_eq_false_iff_eq.mp ha).symm.trans h)) l, List.filter_filter]
  refine congrArg _ (congrArg _ (List.filter_congr fun a ha => ?_))
  -- a producer of `t` is not `x`
  refine Bool.eq_self_and.mpr fun hc => bne_iff_ne.mpr fun hid => ht ?_
  rewrite [← inj_of_nodup_map _ hnd (List.takeWhile_subset _ ha) hx hid]
  exact List.contains_iff_mem.mp hc

theorem nearestIn_of_only {pre : List DP} {t : Ty} {i : Nat} (hex : ∃ p ∈ pre, t ∈ p.outs)
    (h : ∀ a ∈ pre, t ∈ a.outs → a.id = i) : nearestIn pre t = some i := by
  obtain ⟨p, hp, ht⟩ := hex
  have hne : pre.filter (fun q => q.outs.contains t) ≠ [] :=
    List.ne_nil_of_mem (List.mem_filter.mpr ⟨hp, List.contains_iff_mem.mpr ht⟩)
  obtain ⟨ha, hat⟩ := List.mem_filter.mp (List.getLast_mem hne)
  rw [nearestIn, List.getLast?_eq_some_getLast hne, Option.map_some, h _ ha (List.contains_iff_mem.mp hat)]

/-- when every producer of `t` that passes `p` stands in front of the first element that fails it -/
theorem nearestIn_takeWhile {l : List DP} {t : Ty} (p : DP → Bool) (h : ∀ a ∈ l.dropWhile p, p a = true → t ∉ a.outs) :
    nearestIn (l.takeWhile p) t = nearestIn (l.filter p) t := by
  have hno : ((l.dropWhile p).filter p).filter (fun q => q.outs.contains t) = [] :=
    List.filter_eq_nil_iff.mpr fun a ha hc =>
      h a (List.mem_filter.mp ha).1 (List.mem_filter.mp ha).2 (List.contains_iff_mem.mp hc)
  unfold nearestIn
  conv => rhs; rw [← List.takeWhile_append_dropWhile (p := p) (l := l), List.filter_append, List.filter_append]
  rw [List.filter_eq_self.mpr (List.all_eq_true.mp List.all_takeWhile), hno, List.append_nil]

/-- case B: a type only the displaced provider produces, asked for by a consumer behind it -/
theorem source_own_type (l : List DP) (x : DP) (hp : Placed l x)
    (honly : ∀ p ∈ l, p.id ≠ x.id → ∀ t ∈ x.outs, t ∉ p.outs)
    (y : DP) (hy : y ∈ l) (hne : y.id ≠ x.id) (t : Ty) (hty : t ∈ y.ins) (htx : t ∈ x.outs) :
    sourceOf l y.id t = some x.id := by
  obtain ⟨p, hpm, hpid⟩ := mem_takeWhile_of_before (hp.before_consumers y hy hne ⟨t, hty, htx⟩)
  cases inj_of_nodup_map _ hp.nodup (List.takeWhile_subset _ hpm) hp.mem hpid
  exact nearestIn_of_only ⟨x, hpm, htx⟩ fun a ha hat =>
    Decidable.byContradiction fun hid => honly a (List.takeWhile_subset _ ha) hid t htx hat

/-- case C: the inputs of the displaced provider itself: their producers stand in front of it -/
theorem source_of_displaced (l : List DP) (x : DP) (hp : Placed l x) (t : Ty) (ht : t ∈ x.ins) :
    sourceOf l x.id t = nearestIn (l.filter (·.id != x.id)) t := by
  have hnd := hp.nodup
  rewrite [← List.takeWhile_append_dropWhile (p := (·.id != x.id)) (l := l), List.map_append, List.nodup_append] at hnd
  refine nearestIn_takeWhile _ fun a ha hne hta => ?_
  obtain ⟨p, hpm, hpid⟩ := mem_takeWhile_of_before
    (hp.after_producers a (List.dropWhile_subset _ ha) (bne_iff_ne.mp hne) ⟨t, hta, ht⟩)
  exact hnd.2.2 p.id (List.mem_map_of_mem hpm) a.id (List.mem_map_of_mem ha) hpid

/-- **Displacement.**  `l'` lists the same providers as `l` with `x` moved: everything else keeps its
    order.  `x` is the only producer of what it produces.  In both lists `x` stands after every
    producer of its inputs and before every consumer of its outputs.  Then every provider gets every
    input from the same provider in `l'` as in `l`. -/
theorem C17_displacement_preserves_sources (l l' : List DP) (x : DP)
    (hl : Placed l x) (hl' : Placed l' x)
    (hrest : l'.filter (·.id != x.id) = l.filter (·.id != x.id))
    (honly : ∀ p ∈ l, p.id ≠ x.id → ∀ t ∈ x.outs, t ∉ p.outs)
    (y : DP) (hy : y ∈ l) (t : Ty) (ht : t ∈ y.ins) :
    sourceOf l' y.id t = sourceOf l y.id t := by
  have honly' : ∀ p ∈ l', p.id ≠ x.id → ∀ t ∈ x.outs, t ∉ p.outs :=
    fun p hp hne => honly p (mem_of_mem_filter_ne hrest hp hne) hne
  by_cases hyx : y.id = x.id
  · have : y = x := inj_of_nodup_map _ hl.nodup hy hl.mem hyx
    subst this
    rw [source_of_displaced l y hl t ht, source_of_displaced l' y hl' t ht, hrest]
  · have hy' : y ∈ l' := mem_of_mem_filter_ne hrest.symm hy hyx
    by_cases htx : t ∈ x.outs
    · rw [source_own_type l x hl honly y hy hyx t ht htx, source_own_type l' x hl' honly' y hy' hyx t ht htx]
    · rw [source_other_type l x hl.mem hl.nodup y.id hyx t htx, source_other_type l' x hl'.mem hl'.nodup y.id hyx t htx, hrest]

/-- the placement hypotheses are what the executable check decides -/
theorem placedOKB_sound (l : List DP) (x : DP) (hx : x ∈ l) (hnd : (l.map (·.id)).Nodup)
    (h : placedOKB l x = true) : Placed l x := by
  simp only [placedOKB, Bool.and_eq_true, List.all_eq_true, Bool.or_eq_true, beq_iff_eq, Bool.not_eq_true',
    List.any_eq_false, List.contains_iff_mem] at h
  -- per provider: it is `x` itself, or shares no type, or the order test holds
  refine ⟨hx, hnd, ?_, ?_⟩
  · rintro p hp hne ⟨t, ht1, ht2⟩
    exact (h.1 p hp).resolve_left fun h' => h'.elim hne fun h'' => h'' t ht1 ht2
  · rintro p hp hne ⟨t, ht1, ht2⟩
    exact (h.2 p hp).resolve_left fun h' => h'.elim hne fun h'' => h'' t ht1 ht2

-- non-vacuity: [A: ()→T0, X: (T0)→T1, B: (T0)→T2, F: (T1,T2)] with X moved behind B
def exL : List DP := [⟨0, [], [0]⟩, ⟨1, [0], [1]⟩, ⟨2, [0], [2]⟩, ⟨3, [1, 2], []⟩]
def exL' : List DP := [⟨0, [], [0]⟩, ⟨2, [0], [2]⟩, ⟨1, [0], [1]⟩, ⟨3, [1, 2], []⟩]
example : placedOKB exL ⟨1, [0], [1]⟩ = true ∧ placedOKB exL' ⟨1, [0], [1]⟩ = true
    ∧ sourceOf exL' 3 1 = some 1 ∧ sourceOf exL 3 1 = some 1 := by decide +kernel
-- and a placement that violates the constraint is rejected: X listed after its consumer F
example : placedOKB [⟨0, [], [0]⟩, ⟨2, [0], [2]⟩, ⟨3, [1, 2], []⟩, ⟨1, [0], [1]⟩] ⟨1, [0], [1]⟩ = false := by decide +kernel

end Nject
