import NjectProofs.SpecLemmas
/-
  C01, "never a zero value": the supply check that is run on every bound chain the implementation
  dumps (`checkSupply`, WF.lean) is sound in the following sense — for the run phase: when
  `supplyRun fin nodes avail` holds, the whole run (trace, what comes up, final state) is the same
  for any two downward environments that agree on `avail`.  Nothing a provider is handed depends on
  a type outside what was supplied, in particular never on the zero value an unsupplied type reads
  as.  For every behaviour that returns as many values as its signature says.
-/
namespace Nject

def AgreeOn (A : List Ty) (e e' : Env) : Prop := ∀ t ∈ A, e t = e' t

theorem agree_rd {A : List Ty} {e e' : Env} (h : AgreeOn A e e') (ts : List Ty) (hs : ts.all A.contains = true) :
    ts.map e.rd = ts.map e'.rd := by
  apply List.map_congr_left
  intro t ht
  have : t ∈ A := by
    have := List.all_eq_true.mp hs t ht
    simpa using this
  unfold Env.rd
  rw [h t this]

theorem set_congr (x : Ty) (ts : List Ty) (vs : List Val) {e e' : Env} (hl : ts.length ≤ vs.length)
    (h : x ∈ ts ∨ e x = e' x) : (e.set ts vs) x = (e'.set ts vs) x := by
  induction ts generalizing vs e e' with
  | nil => exact h.resolve_left List.not_mem_nil
  | cons t ts ih =>
    cases vs with
    | nil => exact absurd hl (Nat.not_succ_le_zero _)
    | cons v vs =>
      refine ih vs (Nat.le_of_succ_le_succ hl) ?_
      unfold Env.set1
      by_cases hxt : x = t
      · exact .inr (by rw [if_pos hxt, if_pos hxt])
      · rewrite [if_neg hxt, if_neg hxt]
        exact h.imp_left fun hm => (List.mem_cons.mp hm).resolve_left hxt

theorem agree_set (ts : List Ty) (vs : List Val) {A : List Ty} {e e' : Env} (h : AgreeOn A e e')
    (hl : ts.length ≤ vs.length) : AgreeOn (ts ++ A) (e.set ts vs) (e'.set ts vs) :=
  fun x hx => set_congr x ts vs hl ((List.mem_append.mp hx).imp_right (h x))

/-- every inner() call of a wrapper body passes at least `len` arguments -/
def WStep.fits (len : Nat) : WStep → Prop
  | .ret _ => True
  | .call args k => len ≤ args.length ∧ ∀ vals, (k vals).fits len

/-- cached results are results of the behaviour -/
def CacheOf (b : Beh) (st : St) : Prop := ∀ e ∈ st.cache, ∃ k, e.2 = b.inj e.1.1 k e.1.2

/-- the behaviours return as many values as the signatures say -/
structure Fits (b : Beh) (nodes : List Node) : Prop where
  inj : ∀ n ∈ nodes, n.kind ≠ .wrapper → n.kind ≠ .fallible → ∀ k args, n.outs.length ≤ (b.inj n.id k args).length
  fallible : ∀ n ∈ nodes, n.kind = .fallible → ∀ k args, n.outs.length ≤ ((b.inj n.id k args).eraseIdx n.errIdx).length
  wrap : ∀ n ∈ nodes, n.kind = .wrapper → ∀ k args, (b.wrap n.id k args).fits n.outs.length

theorem push_cacheOf {b : Beh} {st : St} (h : CacheOf b st) (e : Ev) : CacheOf b (st.push e) := by
  intro x hx; exact h x (by simpa [St.push] using hx)

theorem callFn_cacheOf (b : Beh) (id : Nat) (memo : Bool) (args : List Val) (st : St) (h : CacheOf b st) :
    CacheOf b (callFn b id memo args st).2 ∧ ∃ k, (callFn b id memo args st).1 = b.inj id k args := by
  rcases callFn_spec b id memo args st with ⟨outs, hm, he⟩ | ⟨cache, hc, he⟩ <;> rewrite [he]
  · exact ⟨h, h _ hm⟩
  · refine ⟨fun e he => ?_, _, rfl⟩
    rcases hc with rfl | rfl
    · exact h e he
    · exact (List.mem_cons.mp he).elim (fun he => he ▸ ⟨_, rfl⟩) (h e)

theorem Fits.tail {b : Beh} {n : Node} {rest : List Node} (h : Fits b (n :: rest)) : Fits b rest :=
  ⟨fun m hm => h.inj m (List.mem_cons_of_mem _ hm), fun m hm => h.fallible m (List.mem_cons_of_mem _ hm),
   fun m hm => h.wrap m (List.mem_cons_of_mem _ hm)⟩

theorem specTree_agree (b : Beh) (n : Node) (avail : List Ty) (next : Env → St → Env × St)
    (hnext : ∀ d d' s, AgreeOn (n.outs ++ avail) d d' → CacheOf b s →
      next d s = next d' s ∧ CacheOf b (next d s).2)
    (down down' : Env) (hag : AgreeOn avail down down') :
    ∀ (w : WStep), w.fits n.outs.length → ∀ (last : Env) (st : St), CacheOf b st →
      specTree n next down w last st = specTree n next down' w last st
      ∧ CacheOf b (specTree n next down w last st).2 := by
  intro w
  induction w with
  | ret outs =>
    intro _ last st hc
    simp only [specTree]
    exact ⟨trivial, push_cacheOf hc _⟩
  | call args k ih =>
    intro hf last st hc
    simp only [specTree]
    obtain ⟨hlen, hk⟩ := hf
    have hs := hnext (down.set n.outs args) (down'.set n.outs args) (st.push (.winner n.id args))
      (agree_set n.outs args hag hlen) (push_cacheOf hc _)
    rewrite [← hs.1]
    exact ih _ (hk _) _ _ (push_cacheOf hs.2 _)

/-- **Supply.**  If every type a provider reads has been supplied (`supplyRun`), the run does not depend
    on anything else in the downward environment. -/
theorem C01_supplied_run_ignores_the_rest (b : Beh) (errTy : Ty) (fin : Node) :
    ∀ (nodes : List Node) (avail : List Ty), supplyRun fin nodes avail = true → Fits b nodes →
    ∀ (down down' : Env) (st : St), AgreeOn avail down down' → CacheOf b st →
      specNodes b errTy fin nodes down st = specNodes b errTy fin nodes down' st
      ∧ CacheOf b (specNodes b errTy fin nodes down st).2 := by
  intro nodes
  induction nodes with
  | nil =>
    intro avail hs _ down down' st hag hc
    rewrite [specNodes, specFinal, specNodes, specFinal, agree_rd hag fin.ins hs]
    exact ⟨rfl, (callFn_cacheOf b _ _ _ st hc).1⟩
  | cons n rest ih =>
    intro avail hs hf down down' st hag hc
    have hs := (Bool.and_eq_true _ _).mp hs
    have hargs := agree_rd hag n.ins hs.1
    have ih := ih (n.outs ++ avail) hs.2 hf.tail
    obtain ⟨hc', k, hk'⟩ := callFn_cacheOf b n.id n.memo (n.ins.map down'.rd) st hc
    by_cases hw : n.kind = .wrapper
    · rewrite [specNodes_wrapper hw, specNodes_wrapper hw, hargs]
      exact specTree_agree b n avail _ (fun d d' s => ih d d' s) down down' hag _
        (hf.wrap n List.mem_cons_self hw _ _) _ _ (push_cacheOf hc _)
    · by_cases hfl : n.kind = .fallible
      · rewrite [specNodes_fallible hfl rfl, specNodes_fallible hfl rfl, hargs]
        generalize isErr _ = e
        cases e with
        | true => exact ⟨rfl, hc'⟩
        | false => exact ih _ _ _ (agree_set n.outs _ hag (by rewrite [hk']; exact hf.fallible n List.mem_cons_self hfl _ _)) hc'
      · rewrite [specNodes_plain hw hfl, specNodes_plain hw hfl, hargs]
        exact ih _ _ _ (agree_set n.outs _ hag (by rewrite [hk']; exact hf.inj n List.mem_cons_self hw hfl _ _)) hc'

/-- In particular the zero values that unsupplied types read as never reach a provider: replacing the
    whole unsupplied part of the environment by anything else changes nothing. -/
theorem C01_never_a_zero_value (b : Beh) (errTy : Ty) (fin : Node) (nodes : List Node) (avail : List Ty)
    (hs : supplyRun fin nodes avail = true) (hf : Fits b nodes) (down : Env) (junk : Env) (st : St) (hc : CacheOf b st) :
    specNodes b errTy fin nodes down st
      = specNodes b errTy fin nodes (fun t => if t ∈ avail then down t else junk t) st :=
  (C01_supplied_run_ignores_the_rest b errTy fin nodes avail hs hf down _ st
    (by intro t ht; simp [ht]) hc).1

-- non-vacuity: [A: (T0)→T1, F: (T1,T0)] with T0 supplied
example : supplyRun ⟨9, .final, [1, 0], [], [], [], [], 0, false, false⟩ [⟨1, .inj, [0], [1], [], [], [], 0, false, false⟩] [0] = true := by decide
-- and an unsupplied read is rejected
example : supplyRun ⟨9, .final, [1, 2], [], [], [], [], 0, false, false⟩ [⟨1, .inj, [0], [1], [], [], [], 0, false, false⟩] [0] = false := by decide

end Nject
