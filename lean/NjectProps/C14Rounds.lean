import NjectProofs.IncludeSpared
import NjectProofs.IncludeRun
/-
  C14, from the first validation to the final one: a Required, Desired or auto-desired provider (not Shun'd, not in a
  Cluster) that passed the first validation reaches the final validation unmarked.  Whether it is in the bound chain is
  decided by the two validations ("can it be included?") alone.
-/
namespace Nject

/-- **C14, from the first validation to the final one, auto-desired providers included**: a Required, Desired or auto-desired
    provider (not Shun'd, not in a Cluster) that the first validation found includable is handed to the final validation
    unmarked -/
theorem C14_wanted_reaches_final_validation_unmarked (ti : TyInfo) (funcs : List CP) (cannot0 : List Nat) (ch1 pre : Chain)
    (hv : firstValidation ti funcs cannot0 = .ok ch1) (hpre : inclusionBeforeFinal ti funcs cannot0 = .ok pre)
    (d : Nat) (hp : ProtW (ch1.get d)) (hc : (ch1.get d).cannot = false) : (pre.get d).cannot = false := by
  have hk := pruneStages_keeps_wanted ch1 (fun j => (firstValidation_fresh ti funcs cannot0 ch1 hv j).1) d hp hc
    (firstValidation_fresh ti funcs cannot0 ch1 hv d).2
  obtain ⟨ch1', hv', rfl⟩ := inclusionBeforeFinal_ok hpre
  cases hv.symm.trans hv'
  rewrite [providesReturns_proj IP.cannot fun _ _ => rfl]
  exact hk

/-- premises are satisfiable: an auto-desired provider (no outputs) -/
def c14WantedExample : List CP := [
  { id := 0, cls := .injectorFunc, out := [5], group := .runGroup },
  { id := 1, cls := .injectorFunc, inp := [5], group := .runGroup },
  { id := 2, cls := .finalFunc, required := true, group := .finalGroup }]

example : (match firstValidation stdTyInfo c14WantedExample [], inclusionBeforeFinal stdTyInfo c14WantedExample [] with
    | .ok ch1, .ok pre => !(ch1.get 1).cannot && (ch1.get 1).wanted && !(ch1.get 1).wantedInCluster && !(ch1.get 1).c.shun
        && (ch1.get 1).c.cluster == 0 && !(pre.get 1).cannot && !(pre.get 0).cannot
    | _, _ => false) = true := by decide +kernel

/-- `ProtW` without the auto-desired providers -/
def Prot (f : IP) : Prop := f.c.cluster = 0 ∧ f.c.shun = false ∧ (f.c.required = true ∨ f.c.desired = true)

theorem ProtW_of_Prot {f : IP} (h : Prot f) : ProtW f := ⟨h.1, h.2.1, h.2.2.imp_right Or.inl⟩

/-- **C14, from the first validation to the final one**: a Required or Desired provider (not Shun'd, not in a Cluster) that
    the first validation found includable is handed to the final validation unmarked -- pruning never excludes it.  With
    `C16_pruned_providers_are_not_included` (what pruning marks is out) this pins the role of pruning for such providers: it
    has none; whether they are in the bound chain is decided by the validations alone. -/
theorem C14_desired_reaches_final_validation_unmarked (ti : TyInfo) (funcs : List CP) (cannot0 : List Nat) (ch1 pre : Chain)
    (hv : firstValidation ti funcs cannot0 = .ok ch1) (hpre : inclusionBeforeFinal ti funcs cannot0 = .ok pre)
    (d : Nat) (hp : Prot (ch1.get d)) (hc : (ch1.get d).cannot = false) : (pre.get d).cannot = false :=
  C14_wanted_reaches_final_validation_unmarked ti funcs cannot0 ch1 pre hv hpre d (ProtW_of_Prot hp) hc

/-- premises are satisfiable: a Desired provider whose output nobody takes, next to a Shun'd one -/
def c14RoundsExample : List CP := [
  { id := 0, cls := .injectorFunc, out := [5], desired := true, group := .runGroup },
  { id := 1, cls := .injectorFunc, out := [6], shun := true, group := .runGroup },
  { id := 2, cls := .finalFunc, required := true, group := .finalGroup }]

example : (match firstValidation stdTyInfo c14RoundsExample [], inclusionBeforeFinal stdTyInfo c14RoundsExample [] with
    | .ok ch1, .ok pre => !(ch1.get 0).cannot && (ch1.get 0).c.desired && !(ch1.get 0).c.shun && (ch1.get 0).c.cluster == 0
        && !(pre.get 0).cannot && (pre.get 1).cannot
    | _, _ => false) = true := by decide +kernel

end Nject
