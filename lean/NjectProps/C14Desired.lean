import NjectProofs.IncludeLockPrune
import NjectProofs.IncludeRun
import NjectProps.C14Rounds
/-
  C14, the Desired clause: a Desired or auto-desired provider (not Shun'd, not in a Cluster) is included exactly when the same
  input with that provider Required is accepted.  Three levels.  Read off `Lock`: one validation (`validate_lock`); two
  whole runs of the include computation on chain states -- flows, first validation, pruning, flows, final validation go in
  lockstep until one of the validations finds the provider impossible to include (`includeRun_lock`).  Provider lists are the
  two runs from the initial state (`computeInclusion_makeRequired`): marking a provider Required also makes it start out
  included, which the computation does not look at.
-/
namespace Nject

theorem validate_sim_flags {b : Bool} {d : Nat} {x x' : Chain} {ry : Except IncErr Chain} (hs : Sym x) (h : validate b x = .ok x')
    (hl : Lock (·.upd d reqF) (fun x' => (x'.get d).inc = true) (fun x' => (x'.get d).cannot = true) ((x.get d).held b) (.ok x') ry) :
    ((x'.get d).inc = true ∧ ∃ y', ry = .ok y' ∧ ∀ j, (y'.get j).inc = (x'.get j).inc ∧ (y'.get j).cannot = (x'.get j).cannot) ∨
    ((x'.get d).inc = false ∧ ry = .error .required) := by
  rcases hl.sim with ⟨hy, hinc⟩ | ⟨hy, hc, _⟩
  · exact Or.inl ⟨hinc, _, hy, req_marked_alike x' d⟩
  · exact Or.inr ⟨validate_marked_out h hs d hc, hy⟩

/-- **C14 (one validation)**: the validity check keeps a Desired provider exactly when the same check with the provider
    Required succeeds, and then the two results differ in that flag only -/
theorem C14_validation_keeps_desired_iff_required_succeeds (b : Bool) (x x' : Chain) (d : Nat) (hs : Sym x)
    (hd : d < x.length) (hreq : (x.get d).c.required = false) (hx : (x.get d).excluded = false)
    (h : validate b x = .ok x') :
    ((x'.get d).inc = true ∧ ∃ y', validate b (x.upd d reqF) = .ok y' ∧
        ∀ j, (y'.get j).inc = (x'.get j).inc ∧ (y'.get j).cannot = (x'.get j).cannot) ∨
    ((x'.get d).inc = false ∧ validate b (x.upd d reqF) = .error .required) :=
  validate_sim_flags hs h (h ▸ validate_lock b d x hd)

/-- **C14 (flow computation + validation)**: compute the flows and validate -- the first stage of the include computation, and
    with the pruned chain as input also its last -- on a chain in which provider `d` is Desired, and on the same chain with
    `d` Required: `d` is kept in the first exactly when the second succeeds, and then every provider is marked alike.  The flow
    computation itself does not look at the two flags (`providesReturns_RelD`). -/
theorem C14_flows_and_validation_desired_vs_required (ti : TyInfo) (x0 x' : Chain) (ip : Option Nat) (d : Nat) (b : Bool)
    (hip : ∀ p, ip = some p → p < x0.length)
    (hd : d < x0.length) (hreq : (x0.get d).c.required = false) (hx : (x0.get d).excluded = false)
    (h : validate b (providesReturns ti x0 ip) = .ok x') :
    ((x'.get d).inc = true ∧ ∃ y', validate b (providesReturns ti (x0.upd d reqF) ip) = .ok y' ∧
        ∀ j, (y'.get j).inc = (x'.get j).inc ∧ (y'.get j).cannot = (x'.get j).cannot) ∨
    ((x'.get d).inc = false ∧ validate b (providesReturns ti (x0.upd d reqF) ip) = .error .required) := by
  rewrite [providesReturns_upd reqF_blind]
  exact validate_sim_flags (providesReturns_sym ti x0 ip hip) h
    (h ▸ validate_lock b d _ (by rewrite [providesReturns_length ti x0 ip]; exact hd))

/-- premises are satisfiable, both ways: provider 1 (Desired) asks for a type nobody provides -- it is left out, and the
    check with it Required fails; provider 0 (Desired) is kept, and the check with it Required succeeds -/
def c14ValidateExample : List CP := [
  { id := 0, cls := .injectorFunc, out := [5], desired := true, group := .runGroup },
  { id := 1, cls := .injectorFunc, inp := [7], out := [6], desired := true, group := .runGroup },
  { id := 2, cls := .finalFunc, required := true, group := .finalGroup }]

def c14ValidateChain : Chain := providesReturns stdTyInfo (initState c14ValidateExample []) (initPosOf c14ValidateExample)

example : (match validate true c14ValidateChain, validate true (c14ValidateChain.upd 1 reqF), validate true (c14ValidateChain.upd 0 reqF) with
    | .ok x', .error .required, .ok y' => !(x'.get 1).inc && (x'.get 0).inc && (y'.get 0).inc && !(c14ValidateChain.get 1).c.required
    | _, _, _ => false) = true := by decide +kernel

theorem includeRun_lock (ti : TyInfo) (ip : Option Nat) (x0 : Chain) (d : Nat)
    (hdd : DesD d x0) (h0 : ∀ j, (x0.get j).clusterMembers = none) (hip : ∀ p, ip = some p → p < x0.length) :
    Lock (·.upd d reqF) (fun x' => (x'.get d).inc = true) (fun x' => (x'.get d).inc = false) false
      (includeRun ti ip x0) (includeRun ti ip (x0.upd d reqF)) := by
  unfold includeRun
  have l1 := flows_validate_lock ti ip d x0 hdd.lt
  generalize validate true (providesReturns ti (x0.upd d reqF) ip) = ry at l1 ⊢
  cases hv : validate true (providesReturns ti x0 ip) with
  | error e =>
    rewrite [hv] at l1
    cases l1 with
    | err => exact .err _
    | hitErr => exact .hitErr _
  | ok ch1 =>
    rewrite [hv] at l1
    have hsame := flows_validate_same ti ip true x0 ch1 hv
    have hl1 : ch1.length = x0.length := (validate_length hv).trans (providesReturns_length ti x0 ip)
    have hcm : ∀ j, (ch1.get j).clusterMembers = none := fun j => (hsame j).2.trans (h0 j)
    have hs3 := providesReturns_sym ti (pruneStages ch1) ip (fun p hp => by rewrite [pruneStages_length, hl1]; exact hip p hp)
    cases l1 with
    | ok _ hinc =>
      have hc1 : (ch1.get d).cannot = false :=
        ((validate_fix true _ ch1 hv (providesReturns_sym ti x0 ip hip)).2 d hinc).1
      have hdd1 := DesD_of_dkey hdd hl1 (hsame d).1
      simp only []
      rewrite [pruneStages_req hdd1 hc1 hcm]
      exact (flows_validate_lock ti ip d (pruneStages ch1) (by rewrite [pruneStages_length]; exact hdd1.lt)).mono (fun _ _ h => h)
        fun x' hx' => validate_marked_out hx' hs3 d
    | hit _ hc1 _ =>
      -- marked by the first validation: excluded by pruning, so not included at the end
      refine .of_hit fun x' hx' => ⟨?_, rfl⟩
      have hmark := pruneStages_keeps_mark ch1 hcm d hc1
      exact (validate_excl hx' d (by rewrite [providesReturns_proj IP.excluded fun _ _ => rfl]; exact hmark)).1

/-- **C14, the Desired clause, for two whole runs**: a chain state in which provider `d` is Desired or auto-desired (`DesD`: not Required, not
    Shun'd, not in a Cluster, not excluded) and the same state with `d` Required: if the first run succeeds, then either `d` is
    included and the second run succeeds with every provider marked alike, or the second run fails. -/
theorem C14_desired_run_vs_required_run (ti : TyInfo) (ip : Option Nat) (x0 x' : Chain) (d : Nat)
    (hdd : DesD d x0) (h0 : ∀ j, (x0.get j).clusterMembers = none) (hip : ∀ p, ip = some p → p < x0.length)
    (h : includeRun ti ip x0 = .ok x') :
    ((x'.get d).inc = true ∧ ∃ y', includeRun ti ip (x0.upd d reqF) = .ok y' ∧
        ∀ j, (y'.get j).inc = (x'.get j).inc ∧ (y'.get j).cannot = (x'.get j).cannot) ∨
    (∃ e, includeRun ti ip (x0.upd d reqF) = .error e) := by
  have hl := includeRun_lock ti ip x0 d hdd h0 hip
  rewrite [h] at hl
  rcases hl.sim with ⟨hy, hinc⟩ | ⟨hy, _⟩
  · exact Or.inl ⟨hinc, _, hy, req_marked_alike x' d⟩
  · exact Or.inr ⟨_, hy⟩

/-- **C14, both directions**: under the hypotheses of `C14_desired_run_vs_required_run`, the Desired provider is included
    exactly when the run with the provider Required succeeds -/
theorem C14_desired_included_iff_required_run_succeeds (ti : TyInfo) (ip : Option Nat) (x0 x' : Chain) (d : Nat)
    (hdd : DesD d x0) (h0 : ∀ j, (x0.get j).clusterMembers = none) (hip : ∀ p, ip = some p → p < x0.length)
    (h : includeRun ti ip x0 = .ok x') :
    (x'.get d).inc = true ↔ ∃ y', includeRun ti ip (x0.upd d reqF) = .ok y' := by
  have hl := includeRun_lock ti ip x0 d hdd h0 hip
  rewrite [h] at hl
  exact hl.ok_iff id fun hni hi => Bool.noConfusion (hni.symm.trans hi)

/-- premises are satisfiable, both ways: with provider 0 (Desired, kept) made Required the run succeeds alike; with provider 1
    (Desired, asks for a type nobody provides) made Required the run fails -/
def c14LockChain : Chain := initState c14ValidateExample []

example : (match includeRun stdTyInfo none c14LockChain, includeRun stdTyInfo none (c14LockChain.upd 0 reqF),
      includeRun stdTyInfo none (c14LockChain.upd 1 reqF) with
    | .ok x', .ok y', .error _ => (x'.get 0).inc && (y'.get 0).inc && !(x'.get 1).inc && (x'.get 2).inc == (y'.get 2).inc
        && (c14LockChain.get 0).c.desired && !(c14LockChain.get 0).c.required && !(c14LockChain.get 0).c.shun
        && (c14LockChain.get 0).c.cluster == 0 && !(c14LockChain.get 0).excluded
    | _, _, _ => false) = true := by decide +kernel

/-- the same for an auto-desired provider (no outputs: flag `wanted`): provider 1 of `c14WantedExample` made Required -/
def c14LockChainW : Chain := initState c14WantedExample []

example : (match includeRun stdTyInfo none c14LockChainW, includeRun stdTyInfo none (c14LockChainW.upd 1 reqF) with
    | .ok x', .ok y' => (x'.get 1).inc && (y'.get 1).inc && (x'.get 0).inc == (y'.get 0).inc
        && (c14LockChainW.get 1).wanted && !(c14LockChainW.get 1).wantedInCluster && !(c14LockChainW.get 1).c.desired
        && !(c14LockChainW.get 1).c.required && !(c14LockChainW.get 1).c.shun && (c14LockChainW.get 1).c.cluster == 0
    | _, _ => false) = true := by decide +kernel

def makeRequired (c : CP) : CP := { c with required := true, desired := false }

theorem includeRun_incT (ti : TyInfo) (ip : Option Nat) (x : Chain) (d : Nat) :
    includeRun ti ip (x.upd d incT) = includeRun ti ip x := by
  unfold includeRun
  rw [providesReturns_upd incT_blind, validate_incT]

/-- the initial state of the list with the provider marked Required is the initial state of the list as given with that
    provider made Required -- and initially included, which the computation does not look at -/
theorem initState_set (funcs : List CP) (cannot0 : List Nat) (d : Nat) (c : CP) (hd : funcs[d]? = some c) (hcl : c.cluster = 0) :
    initState (funcs.set d (makeRequired c)) cannot0 = ((initState funcs cannot0).upd d reqF).upd d incT := by
  have hdl : d < funcs.length := (List.getElem?_eq_some_iff.mp hd).1
  refine Chain.ext_get (by rw [initState_length, Chain.length_upd, Chain.length_upd, initState_length, List.length_set]) fun j => ?_
  rewrite [Chain.upd_upd, Chain.get_upd, initState_length]
  by_cases hj : j = d
  · subst hj
    rewrite [if_pos ⟨rfl, hdl⟩, initState_rec _ cannot0 j _ (by rw [List.getElem?_set_self hdl]), initState_rec funcs cannot0 j c hd]
    rw [hcl, bne_self_eq_false, Bool.and_false]; rfl
  · rewrite [if_neg fun hh => hj hh.1]
    by_cases hjl : j < funcs.length
    · have hget : funcs[j]? = some funcs[j] := List.getElem?_eq_getElem hjl
      rw [initState_rec _ cannot0 j _ (by rw [List.getElem?_set_ne (fun e => hj e.symm)]; exact hget),
        initState_rec funcs cannot0 j _ hget]
    · rw [Chain.get_of_le _ (by rw [initState_length, List.length_set]; exact Nat.le_of_not_lt hjl),
        Chain.get_of_le _ (by rw [initState_length]; exact Nat.le_of_not_lt hjl)]

/-- the auto-desired rule of `initState` -/
def autoDesiredC (c : CP) : Bool := !c.required && !c.desired && c.cls != .finalFunc && (stripUnusedT c.out).isEmpty

theorem DesD_initState (funcs : List CP) (cannot0 : List Nat) (d : Nat) (c : CP) (hd : funcs[d]? = some c) (hreq : c.required = false)
    (hwant : c.desired = true ∨ autoDesiredC c = true) (hshun : c.shun = false) (hcl : c.cluster = 0) :
    DesD d (initState funcs cannot0) := by
  have hdl : d < funcs.length := (List.getElem?_eq_some_iff.mp hd).1
  have hrec := initState_rec funcs cannot0 d c hd
  refine ⟨by rewrite [initState_length]; exact hdl, by rewrite [hrec]; exact hreq, ?_, by rewrite [hrec]; exact hshun, by rewrite [hrec]; exact hcl,
    by rw [hrec]⟩
  rewrite [hrec]
  rcases hwant with h1 | h1
  · exact Or.inl h1
  · exact Or.inr ⟨h1, by simp [hcl]⟩

theorem computeInclusion_makeRequired (ti : TyInfo) (funcs : List CP) (cannot0 : List Nat) (d : Nat) (c : CP)
    (hd : funcs[d]? = some c) (hcl : c.cluster = 0) (ch' : Chain) :
    computeInclusion ti (funcs.set d (makeRequired c)) cannot0 = .ok ch' ↔
      includeRun ti (initPosOf funcs) ((initState funcs cannot0).upd d reqF) = .ok ch' := by
  rw [computeInclusion_eq_includeRun, initPosOf_set funcs d c (makeRequired c) hd rfl, initState_set funcs cannot0 d c hd hcl, includeRun_incT]

/-- **C14, the Desired clause, on provider lists**: if the include computation accepts a provider list, then a provider of the
    list that is Desired or auto-desired (and not Required, not Shun'd, not in a Cluster, not given up on by reorder) is
    included exactly when the include computation also accepts the list with that provider marked Required -/
theorem C14_desired_included_iff_required_variant_accepted (ti : TyInfo) (funcs : List CP) (cannot0 : List Nat) (ch : Chain)
    (d : Nat) (c : CP) (hd : funcs[d]? = some c) (hreq : c.required = false)
    (hwant : c.desired = true ∨ autoDesiredC c = true) (hshun : c.shun = false) (hcl : c.cluster = 0)
    (h : computeInclusion ti funcs cannot0 = .ok ch) :
    (ch.get d).inc = true ↔ ∃ ch', computeInclusion ti (funcs.set d (makeRequired c)) cannot0 = .ok ch' := by
  simp only [computeInclusion_makeRequired ti funcs cannot0 d c hd hcl]
  exact C14_desired_included_iff_required_run_succeeds ti (initPosOf funcs) (initState funcs cannot0) ch d
    (DesD_initState funcs cannot0 d c hd hreq hwant hshun hcl) (initState_clusterMembers funcs cannot0)
    (fun p hp => by rewrite [initState_length]; exact initPos_lt funcs p hp) ((computeInclusion_eq_includeRun ti funcs cannot0 ch).mp h)

/-- ... and then the two accepted chains mark every provider alike ("the two chains then behave identically": the same
    providers are compiled, with the same slots -- the refinement theorem does the rest) -/
theorem C14_required_variant_is_marked_alike (ti : TyInfo) (funcs : List CP) (cannot0 : List Nat) (ch ch' : Chain)
    (d : Nat) (c : CP) (hd : funcs[d]? = some c) (hreq : c.required = false)
    (hwant : c.desired = true ∨ autoDesiredC c = true) (hshun : c.shun = false) (hcl : c.cluster = 0)
    (h : computeInclusion ti funcs cannot0 = .ok ch)
    (h' : computeInclusion ti (funcs.set d (makeRequired c)) cannot0 = .ok ch') :
    ∀ j, (ch'.get j).inc = (ch.get j).inc ∧ (ch'.get j).cannot = (ch.get j).cannot := by
  rewrite [computeInclusion_makeRequired ti funcs cannot0 d c hd hcl] at h'
  rcases C14_desired_run_vs_required_run ti (initPosOf funcs) (initState funcs cannot0) ch d
    (DesD_initState funcs cannot0 d c hd hreq hwant hshun hcl) (initState_clusterMembers funcs cannot0)
    (fun p hp => by rewrite [initState_length]; exact initPos_lt funcs p hp) ((computeInclusion_eq_includeRun ti funcs cannot0 ch).mp h)
    with ⟨-, y', hy, hj⟩ | ⟨e, he⟩
  · cases h'.symm.trans hy; exact hj
  · cases h'.symm.trans he

/-- premises are satisfiable, both ways -/
example : (match computeInclusion stdTyInfo c14ValidateExample [],
      computeInclusion stdTyInfo (c14ValidateExample.set 0 (makeRequired c14ValidateExample[0]!)) [],
      computeInclusion stdTyInfo (c14ValidateExample.set 1 (makeRequired c14ValidateExample[1]!)) [] with
    | .ok ch, .ok _, .error _ => (ch.get 0).inc && !(ch.get 1).inc
    | _, _, _ => false) = true := by decide +kernel

end Nject
