import NjectProofs.ReorderRun
/-
  C17, second sentence, about the algorithm itself: reorder.go (as transcribed in
  `Nject/ReorderAlg.lean` and compared with the implementation's S4 dump on every run) returns a
  rearrangement of the list it was given in which the providers that are not marked Reorder keep
  their listed relative order, and its loop ends -- for every list of providers.
-/
namespace Nject

/-- **C17 (algorithm)**: whatever reorder does, no provider is lost or duplicated. -/
theorem C17_reorder_is_a_rearrangement (ti : TyInfo) (funcs : List CP) (hasInit : Bool) :
    (reorderModel ti funcs hasInit).1.Perm (clearReorder funcs) := by
  unfold reorderModel
  cases h : reorderIdx ti funcs hasInit with
  | none => exact List.Perm.refl _
  | some r =>
    simp only []
    have hp := (reorderIdx_perm h).filterMap (fun i => (clearReorder funcs)[i]?)
    rwa [range_filterMap_self] at hp

/-- **C17 (algorithm)**: the providers not marked Reorder keep their listed relative order. -/
theorem C17_fixed_providers_keep_their_order (ti : TyInfo) (funcs : List CP) (hasInit : Bool) :
    (reorderModel ti funcs hasInit).1.filter (fun f => !f.reorder) = (clearReorder funcs).filter (fun f => !f.reorder) := by
  unfold reorderModel
  cases h : reorderIdx ti funcs hasInit with
  | none => rfl
  | some r =>
    simp only []
    have key : ∀ l : List Nat, (l.filterMap fun i => (clearReorder funcs)[i]?).filter (fun f => !f.reorder)
        = (l.filter (fun i => !((clearReorder funcs).getD i default).reorder)).filterMap fun i => (clearReorder funcs)[i]? := by
      intro l
      rewrite [List.filter_filterMap, List.filterMap_filter]
      congr 1
      funext i
      rewrite [List.getD_eq_getElem?_getD]
      cases (clearReorder funcs)[i]? with
      | none => exact (ite_self _).symm
      | some f => rfl
    rw [key, reorderIdx_fixed h, ← key, range_filterMap_self]

/-- the providers reorder gives up on ("dependencies not met") are exactly those the sort never
    reached, and they are listed last, in listed order -/
theorem C17_given_up_are_listed_last {ti funcs hasInit r} (h : reorderIdx ti funcs hasInit = some r) :
    ∃ reached, r.order = reached ++ r.gaveUp := by
  obtain ⟨x, rfl, _⟩ := reorderIdx_ran h
  exact ⟨x.out, rfl⟩

/-- **C17 (algorithm)**: `topo.run` ends -- the transcription never uses up the fuel it is given, for
    every list of providers (the measure: queue entries plus the pushes the unprocessed nodes can
    still cause) -/
theorem C17_reorder_always_ends (ti : TyInfo) (funcs : List CP) (hasInit : Bool) :
    (reorderModel ti funcs hasInit).2.2 = false := by
  unfold reorderModel
  cases h : reorderIdx ti funcs hasInit with
  | none => rfl
  | some r => obtain ⟨x, rfl, _⟩ := reorderIdx_ran h; rfl

-- non-vacuity: a chain on which reorder really moves a provider

private def exFuncs : List CP :=
  [ { id := 990, cls := .invokeFunc, group := .invokeGroup, out := [1], recv := [], required := true },
    { id := 0, cls := .injectorFunc, group := .runGroup, inp := [2], out := [3], reorder := true },   -- needs 2: must move behind 1
    { id := 1, cls := .injectorFunc, group := .runGroup, inp := [1], out := [2] },
    { id := 2, cls := .finalFunc, group := .finalGroup, inp := [3], required := true } ]

example : (reorderModel stdTyInfo exFuncs false).1.map (·.id) = [990, 1, 0, 2] := by decide +kernel
example : (reorderModel stdTyInfo exFuncs false).2.1 = [] := by decide +kernel
-- two Reorder'd providers that wait for each other are given up on and listed last
example : (reorderModel stdTyInfo
    [ { id := 990, cls := .invokeFunc, group := .invokeGroup, out := [1], required := true },
      { id := 0, cls := .injectorFunc, group := .runGroup, inp := [5], out := [6], reorder := true },
      { id := 1, cls := .injectorFunc, group := .runGroup, inp := [6], out := [5], reorder := true },
      { id := 2, cls := .finalFunc, group := .finalGroup, inp := [1], required := true } ] false).2.1 = [0, 1] := by decide +kernel

end Nject
