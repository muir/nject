import NjectProps.C06
/-
  C07 (classification part), over the REGENERATED registry: a provider that returns TerminalError
  is never classified as a plain injector or plain static injector -- the entry chosen for it is one
  whose generated code treats the TerminalError as terminal (fallible injector / fallible static
  injector), or it is the final function, a wrapper or a literal.  The registry is first-match:
  what makes this true is that every plain entry is preceded by a fallible entry asking for nothing
  more than the plain one plus `returnsTerminalError`.

  Imports C06 although it calls nothing of it: the pins of the hand-modelled classification sources
  (`C06_hand_modelled_sources_unchanged`) are to fail C07's module too when characterize.go changes under them.
-/
namespace Nject
open Gen

def plainInjectorEntry (e : Entry) : Bool := e.cls == .injectorFunc || e.cls == .staticInjectorFunc
def fallibleEntry (e : Entry) : Bool := e.cls == .fallibleInjectorFunc || e.cls == .fallibleStaticInjectorFunc

/-- the fallible entry `f` asks for nothing beyond what the plain entry `e` asks for, except that
    the provider returns TerminalError -/
def coveredBy (e f : Entry) : Bool :=
  fallibleEntry f && f.tests.all fun p => p == .pReturnsTerminalError || e.tests.contains p

/-- every plain injector entry of the table is preceded by a fallible entry covering it -/
def teOrderOK : List Entry → List Entry → Bool
  | _, [] => true
  | earlier, e :: rest => (!plainInjectorEntry e || earlier.any (coveredBy e)) && teOrderOK (e :: earlier) rest

theorem C07_registry_fallible_entries_come_first : teOrderOK [] handlerRegistry = true := by decide +kernel

theorem teOrder_sound (c : PredCtx) (hte : c.returnsTerminalError = true) (rest earlier : List Entry)
    (hok : teOrderOK earlier rest = true) (hearly : ∀ f ∈ earlier, fires c f = false) :
      ∀ e, rest.find? (fires c) = some e → plainInjectorEntry e = false := by
  induction rest generalizing earlier with
  | nil => intro e h; rewrite [List.find?_nil] at h; cases h
  | cons x rest ih =>
    intro e h
    unfold teOrderOK at hok
    simp only [Bool.and_eq_true] at hok
    obtain ⟨hx, hrest⟩ := hok
    cases hf : fires c x with
    | true =>
      -- x is the first match
      have : e = x := by
        rewrite [List.find?_cons_of_pos hf] at h
        exact (Option.some.inj h).symm
      subst this
      cases hp : plainInjectorEntry e with
      | false => rfl
      | true =>
        simp only [hp, Bool.not_true, Bool.false_or, List.any_eq_true] at hx
        obtain ⟨f, hfm, hcov⟩ := hx
        unfold coveredBy at hcov
        simp only [Bool.and_eq_true, List.all_eq_true] at hcov
        -- then f fires as well, but f is earlier
        have : fires c f = true := by
          unfold fires
          rewrite [List.all_eq_true]
          intro p hp'
          have := hcov.2 p hp'
          simp only [Bool.or_eq_true, beq_iff_eq, List.contains_eq_mem, decide_eq_true_eq] at this
          rcases this with rfl | hmem
          · exact hte
          · unfold fires at hf
            exact List.all_eq_true.mp hf p hmem
        rewrite [hearly f hfm] at this; cases this
    | false =>
      rewrite [List.find?_cons_of_neg (by rewrite [hf]; exact Bool.false_ne_true)] at h
      exact ih (x :: earlier) hrest
        (fun f hfm => by rcases List.mem_cons.mp hfm with rfl | hfm; exact hf; exact hearly f hfm) e h

/-- **C07 (classification)**: a provider returning TerminalError is never compiled as a plain
    injector, whatever its annotations: its TerminalError is always treated as terminal. -/
theorem C07_terminal_error_is_never_a_plain_output (c : PredCtx) (e : Entry) (h : classify c = some e)
    (hte : c.returnsTerminalError = true) :
    e.cls ≠ .injectorFunc ∧ e.cls ≠ .staticInjectorFunc := by
  have := teOrder_sound c hte handlerRegistry [] C07_registry_fallible_entries_come_first (fun _ h => by cases h) e h
  unfold plainInjectorEntry at this
  simp only [Bool.or_eq_false_iff, beq_eq_false_iff_ne, ne_eq] at this
  exact this

/-- and a fallible class is only ever given to a provider that does return TerminalError -/
theorem C07_fallible_class_needs_terminal_error :
    handlerRegistry.all (fun e => !fallibleEntry e || e.tests.contains .pReturnsTerminalError) = true := by decide +kernel

/-- the flows of a fallible run-group entry: the error goes up (`errorOnly`), TerminalError is taken
    out of what is injected downward (`redactTE`); of a fallible static entry: TerminalError is retyped
    to error (`remapTE`) -/
theorem C07_fallible_flows :
    handlerRegistry.all (fun e =>
      (e.cls != .fallibleInjectorFunc || (e.flows.contains (.outputParams, .redactTE) && e.flows.contains (.returnParams, .errorOnly))) &&
      (e.cls != .fallibleStaticInjectorFunc || e.flows.contains (.outputParams, .remapTE))) = true := by decide +kernel

/-- MustCache + Reorder + TerminalError matches no entry (Bind fails): the plain static entry asks for `notMarkedReorder` as the
    fallible static entries do -/
example : classify { mustCache := true, cacheable := true, reorder := true, returnsTerminalError := true } = none := by decide +kernel

/-- non-vacuity: a memoized per-invocation function returning TerminalError gets the fallible class -/
example : (classify { memoize := true, cacheable := true, inputsAreStatic := false, returnsTerminalError := true }).map (·.cls)
    = some .fallibleInjectorFunc := by decide +kernel

end Nject
