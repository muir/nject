import Nject.Collections
import Nject.Slots
import NjectProofs.Characterize
/-
  C13 — grouping, naming and annotation placement are semantically neutral: everything downstream of
  collection construction only sees the flat provider list (and, for named edits, the origins).
-/
namespace Nject

theorem flattenList_append {α : Type} (xs ys : List (Coll α)) :
    Coll.flattenList (xs ++ ys) = Coll.flattenList xs ++ Coll.flattenList ys := by
  induction xs with
  | nil => rfl
  | cons x xs ih => exact (congrArg (x.flatten ++ ·) ih).trans (List.append_assoc ..).symm

/-- nesting a run of providers in a sub-Sequence changes nothing -/
theorem C13_nesting_neutral {α : Type} (pre mid post : List (Coll α)) :
    (Coll.seq (pre ++ [Coll.seq mid] ++ post)).flatten = (Coll.seq (pre ++ mid ++ post)).flatten := by
  simp [Coll.flatten, flattenList_append, Coll.flattenList]

/-- building the list with Append is the same as writing it in one Sequence -/
theorem C13_append_neutral {α : Type} (xs ys : List (Coll α)) :
    ((Coll.seq xs).append ys).flatten = (Coll.seq (xs ++ ys)).flatten := by
  simp [Coll.append, Coll.flatten, Coll.flattenList, flattenList_append]

mutual
theorem annotate_flatten {α : Type} (f : α → α) : ∀ (c : Coll α), (c.annotate f).flatten = c.flatten.map f
  | .leaf p => by simp [Coll.annotate, Coll.flatten]
  | .seq items => by simp [Coll.annotate, Coll.flatten, annotateList_flatten f items]
theorem annotateList_flatten {α : Type} (f : α → α) : ∀ (cs : List (Coll α)),
    Coll.flattenList (Coll.annotateList f cs) = (Coll.flattenList cs).map f
  | [] => by simp [Coll.annotateList, Coll.flattenList]
  | c :: cs => by simp [Coll.annotateList, Coll.flattenList, annotate_flatten f c, annotateList_flatten f cs]
end

/-- an annotation applied to a whole Collection is the annotation applied to each member -/
theorem C13_annotate_collection_is_map {α : Type} (f : α → α) (items : List (Coll α)) :
    (Coll.annotate f (.seq items)).flatten = (Coll.flattenList items).map f := by
  simpa [Coll.flatten] using annotate_flatten f (.seq items)

/-- the pipeline after construction is a function of the flat list only: two constructions with the same
    flat list bind identically (stated for the model `bindModel`, whose inputs are exactly the flat list
    of descriptions, the origins, and the two signatures) -/
theorem C13_bind_depends_on_flat_list (ti : TyInfo) (en1 en2 : List ENode) (d1 d2 : List PDesc) (inv : Sig) (ini : Option Sig)
    (h1 : en1 = en2) (h2 : d1 = d2) :
    (bindModel ti en1 d1 inv ini).toOption.map (fun b => b.chain.map (·.inc)) =
    (bindModel ti en2 d2 inv ini).toOption.map (fun b => b.chain.map (·.inc)) := by
  subst h1; subst h2; rfl

/-- two sets of per-invocation types that differ at most in `Unused` -/
def sameButUnused (a b : List Ty) : Prop := ∀ t, t ≠ tUnused → a.contains t = b.contains t

theorem sameButUnused_prepend {a b : List Ty} (h : sameButUnused a b) (l : List Ty) : sameButUnused (l ++ a) (l ++ b) := by
  intro t ht
  have := h t ht
  simp only [List.contains_eq_mem, List.mem_append, decide_eq_decide] at this ⊢
  exact or_congr_right this

theorem sameButUnused_taint {a b : List Ty} (h : sameButUnused a b) (c : CP) : sameButUnused (c.taint a) (c.taint b) := by
  unfold CP.taint
  split
  · exact sameButUnused_prepend h c.out
  · exact h

theorem headCP_congr {a b : List Ty} (h : sameButUnused a b) (p : PDesc) (isLast : Bool) :
    headCP p isLast a = headCP p isLast b := by
  have hf : (fun t => t != tUnused && a.contains t) = (fun t => t != tUnused && b.contains t) := by
    funext t
    by_cases ht : t = tUnused
    · simp [ht]
    · rw [h t ht]
  unfold headCP
  rw [hf]

/-- **C13 (classification)**: whether `Unused` counts as a per-invocation type makes no difference to
    `characterizeAndFlatten` -- no provider is demoted from the static set (or refused as MustCache) because the
    invoke function, or a per-invocation provider before it, supplies `Unused`. -/
theorem C13_unused_does_not_demote : ∀ (provs : List PDesc) (ns1 ns2 : List Ty), sameButUnused ns1 ns2 →
    characterizeAll provs ns1 = characterizeAll provs ns2 := by
  intro provs
  induction provs with
  | nil => intro _ _ _; rfl
  | cons p rest ih =>
    intro ns1 ns2 h
    rewrite [characterizeAll_cons, characterizeAll_cons, headCP_congr h]
    cases headCP p rest.isEmpty ns2 with
    | none => rfl
    | some c => exact congrArg (Option.map c.place) (ih _ _ (sameButUnused_taint h c))

/-- in particular: an invoke function that takes `Unused` -/
theorem C13_unused_invoke_argument_does_not_demote (provs : List PDesc) (ins : List Ty) :
    characterizeAll provs (tUnused :: ins) = characterizeAll provs ins := by
  apply C13_unused_does_not_demote
  intro t ht
  simp only [List.contains_cons]
  have : (t == tUnused) = false := by simpa using ht
  rewrite [this]; rfl

end Nject
