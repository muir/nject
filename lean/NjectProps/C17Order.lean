import NjectProofs.ReorderRun
import Nject.ReorderCond
/-
  C17, about the algorithm (reorder.go as transcribed in `Nject/ReorderAlg.lean`), for every provider list and
  type universe:

  * a provider that `reorder` places on its own initiative -- one marked Reorder that it does not give up on --
    comes AFTER everything it was strongly constrained to come after: for a constraint on another provider,
    that provider stands earlier in the new order; for a constraint on the pseudo node of a type (one per
    matched input type / returned type), some provider that releases the node -- outputs the type,
    resp. receives it -- stands earlier in the new order, or the init function outputs the type.  Together with
    `C17_fixed_providers_keep_their_order` and `C17_displacement_preserves_sources` this is the "still receives
    its inputs from the same producer" half of C17's first sentence;
  * only providers marked Reorder are given up on;
  * placement: under the order condition `LiveHyp` on the constraint graph, `reorder` does not give up on the
    displaced provider and lists it before its consumers.  `liveHypB` decides the condition.  NOT proved: that
    the preconditions of C17 imply the condition; the driver evaluates `liveHypB` for the displaced provider of
    every generated displacement variant.
-/
namespace Nject

/-- **C17 (algorithm)**: a Reorder'd provider that is placed stands after everything it was strongly
    constrained to come after. -/
theorem C17_reordered_provider_follows_its_constraints (ti : TyInfo) (funcs : List CP) (hasInit : Bool) (r : ReorderOut)
    (h : reorderIdx ti funcs hasInit = some r) (b i : Nat) (hb : r.order[b]? = some i) (hgu : i ∉ r.gaveUp)
    (hr : ((clearReorder funcs).getD i default).reorder = true) (j : Nat)
    (hj : (i, j) ∈ (buildGraph ti (clearReorder funcs) hasInit).strong) :
    (j < funcs.length → ∃ a : Nat, a < b ∧ r.order[a]? = some j) ∧
    (funcs.length < j → InitReleases (clearReorder funcs) (buildGraph ti (clearReorder funcs) hasInit) hasInit j ∨
      ∃ (a p : Nat), a < b ∧ r.order[a]? = some p ∧
        Releases (topoStatic (clearReorder funcs) (buildGraph ti (clearReorder funcs) hasInit)) p j) := by
  obtain ⟨x, rfl, R⟩ := reorderIdx_ran h
  have hn : (topoStatic (clearReorder funcs) (buildGraph ti (clearReorder funcs) hasInit)).n = funcs.length := length_clearReorder funcs
  simp only [] at hb hgu ⊢
  -- `i` is among the emitted, not among the left over
  rewrite [List.getElem?_append_left (Nat.lt_of_not_le fun hg =>
    hgu (List.mem_iff_getElem?.mpr ⟨_, (List.getElem?_append_right hg).symm.trans hb⟩))] at hb
  obtain ⟨p1, p2⟩ := R.dep.placed b i hb hr j (((buildNodes_dual _).1 i j).mpr hj)
  exact ⟨fun hjn => (p1 (hn ▸ hjn)).imp fun a ha => ⟨ha.1, getElem?_append_of_some ha.2⟩,
    fun hjn => (p2 (hn ▸ hjn)).imp_right (Exists.imp fun a => Exists.imp fun p h => ⟨h.1, getElem?_append_of_some h.2.1, h.2.2⟩)⟩

/-- **C17 (algorithm), in terms of the provider list**: a Reorder'd provider that is placed stands after a
    source of each of its inputs: for every input type that the matching table resolves to `t`, some provider
    that OUTPUTS `t` stands earlier in the new order -- or the init function outputs `t`. -/
theorem C17_reordered_provider_follows_its_sources (ti : TyInfo) (funcs : List CP) (hasInit : Bool) (r : ReorderOut)
    (h : reorderIdx ti funcs hasInit = some r) (b i : Nat) (hb : r.order[b]? = some i) (hgu : i ∉ r.gaveUp)
    (hr : ((clearReorder funcs).getD i default).reorder = true) (hi : i < funcs.length)
    (tRaw : Ty) (ht : tRaw ∈ noNoType ((clearReorder funcs).getD i default).inp) (t : Ty) (deps : List Nat)
    (hm : bestMatch ti (fun p => ((clearReorder funcs).getD p default).loose) (availDown (clearReorder funcs) hasInit) tRaw = some (t, deps)) :
    (hasInit = true ∧ ∃ f, (clearReorder funcs).find? (·.cls == .initFunc) = some f ∧ t ∈ noNoType f.out) ∨
    ∃ (a p : Nat), a < b ∧ r.order[a]? = some p ∧ t ∈ noNoType ((clearReorder funcs).getD p default).out := by
  have hlen := length_clearReorder funcs
  obtain ⟨ok, has⟩ := buildGraph_inputs ti (clearReorder funcs) hasInit
  obtain ⟨num, hl, hs⟩ := has i (by rewrite [hlen]; exact hi) tRaw ht t deps hm
  have hmem := mem_of_lookup hl
  have hsok := reorderStatic_ok ti (clearReorder funcs) hasInit
  have hgt : funcs.length < num := by rewrite [← hlen]; exact hsok.downGt t num hl
  have same : ∀ t', (buildGraph ti (clearReorder funcs) hasInit).downTypes.lookup t' = some num → t' = t := by
    intro t' hl'
    have := ok.dinj _ (mem_of_lookup hl') _ hmem rfl
    exact congrArg Prod.fst this
  rcases (C17_reordered_provider_follows_its_constraints ti funcs hasInit r h b i hb hgu hr num hs).2 hgt with hin | ⟨a, p, ha, hp, hrel⟩
  · obtain ⟨hI, f, hf, t', ht', hl'⟩ := hin
    left
    exact ⟨hI, f, hf, by rewrite [← same t' hl']; exact ht'⟩
  · right
    refine ⟨a, p, ha, hp, ?_⟩
    rcases hrel with ⟨t', ht', hl'⟩ | ⟨t', _, hl'⟩
    · rewrite [← same t' hl']; exact ht'
    · exact (ok.dudisj _ hmem _ (mem_of_lookup hl') rfl).elim

/-- the hypotheses are satisfiable: a Reorder'd injector listed before the producer of its input is moved
    behind it; `(1, 5)` is its strong constraint on the pseudo node of the input type -/
def c17cExample : List CP := [
  { id := 0, cls := .invokeFunc, group := .invokeGroup, out := [1] },
  { id := 1, cls := .injectorFunc, group := .runGroup, inp := [5], out := [6], reorder := true },
  { id := 2, cls := .injectorFunc, group := .runGroup, inp := [1], out := [5] },
  { id := 3, cls := .finalFunc, group := .finalGroup, inp := [6], required := true }]

example : (reorderIdx stdTyInfo c17cExample false).map (fun r => (r.order, r.gaveUp)) = some ([0, 2, 1, 3], []) := by decide +kernel
example : (1, 5) ∈ (buildGraph stdTyInfo (clearReorder c17cExample) false).strong := by decide +kernel

/-- **C17 (algorithm)**: `reorder` gives up only on providers marked Reorder -- a provider that may not move is
    always placed (in its turn), for every provider list. -/
theorem C17_only_reorder_providers_are_given_up (ti : TyInfo) (funcs : List CP) (hasInit : Bool) (r : ReorderOut)
    (h : reorderIdx ti funcs hasInit = some r) (i : Nat) (hi : i ∈ r.gaveUp) :
    ((clearReorder funcs).getD i default).reorder = true := by
  obtain ⟨x, rfl, R⟩ := reorderIdx_ran h
  obtain ⟨f⟩ := R.full
  -- every fixed provider has been taken off the queue, hence is done
  have hm := f.all_taken R.idle
  replace hi := Topo.mem_leftOver.mp hi
  cases hr : ((clearReorder funcs).getD i default).reorder with
  | true => rfl
  | false =>
    obtain ⟨j, hj⟩ := List.mem_iff_getElem?.mp ((R.sok.mem i).mpr ⟨hi.1, hr⟩)
    have hjl : j < (buildGraph ti (clearReorder funcs) hasInit).cannotReorder.length := (List.getElem?_eq_some_iff.mp hj).1
    exact (hi.2 (f.crDone j i (Nat.lt_of_lt_of_le hjl hm) hj)).elim

/-- **C17 (algorithm), placement**: under the order condition `LiveHyp` on the constraint graph -- the
    constraints of every fixed provider are met by the fixed providers before it (from position `kx` on possibly by
    `xr`), the constraints of `xr` by the fixed providers before `kx` -- `reorder` does not give up on `xr` and lists
    it before every provider that waits for a type only `xr` supplies. -/
theorem C17_displaced_provider_is_placed_before_its_consumers (ti : TyInfo) (funcs : List CP) (hasInit : Bool) (r : ReorderOut)
    (h : reorderIdx ti funcs hasInit = some r) (xr kx : Nat)
    (H : LiveHyp (topoStatic (clearReorder funcs) (buildGraph ti (clearReorder funcs) hasInit))
          (buildGraph ti (clearReorder funcs) hasInit).cannotReorder
          (buildNodes (buildGraph ti (clearReorder funcs) hasInit)).after
          (InitReleases (clearReorder funcs) (buildGraph ti (clearReorder funcs) hasInit) hasInit) xr kx) :
    xr ∉ r.gaveUp ∧ xr ∈ r.order ∧
    ∀ (b p : Nat), r.order[b]? = some p →
      Consumer (topoStatic (clearReorder funcs) (buildGraph ti (clearReorder funcs) hasInit))
        (buildNodes (buildGraph ti (clearReorder funcs) hasInit)).after
        (InitReleases (clearReorder funcs) (buildGraph ti (clearReorder funcs) hasInit) hasInit) xr p →
      ∃ a : Nat, a < b ∧ r.order[a]? = some xr := by
  obtain ⟨x, rfl, R⟩ := reorderIdx_ran h
  obtain ⟨ff⟩ := R.full
  obtain ⟨hx, ho⟩ := R.live H
  have hxo : xr ∈ x.out := ff.core.doneOut xr hx H.xlt
  refine ⟨?_, List.mem_append_left _ hxo, ?_⟩
  · exact fun h => (Topo.mem_leftOver.mp h).2 hx
  · intro b p hb hc
    simp only [] at hb ⊢
    rcases Nat.lt_or_ge b x.out.length with hbl | hbg
    · rewrite [List.getElem?_append_left hbl] at hb
      exact (ho b p hb hc).imp fun a ha => ⟨ha.1, getElem?_append_of_some ha.2⟩
    · -- a provider that was given up on stands behind all that were emitted
      obtain ⟨a0, ha0⟩ := List.mem_iff_getElem?.mp hxo
      exact ⟨a0, Nat.lt_of_lt_of_le (List.getElem?_eq_some_iff.mp ha0).1 hbg, getElem?_append_of_some ha0⟩

theorem releasesB_iff (s : TopoS) (q j : Nat) : releasesB s q j = true ↔ Releases s q j := by
  unfold releasesB Releases
  simp only [Bool.or_eq_true, List.any_eq_true, beq_iff_eq]

theorem initReleasesB_iff (fs : List CP) (g : RGraph) (hasInit : Bool) (j : Nat) :
    initReleasesB fs g hasInit j = true ↔ InitReleases fs g hasInit j := by
  unfold initReleasesB InitReleases
  cases fs.find? (·.cls == .initFunc) with
  | none => simp only [Bool.and_false, Bool.false_eq_true, reduceCtorEq, false_and, exists_false, and_false]
  | some f => simp only [Bool.and_eq_true, List.any_eq_true, beq_iff_eq, Option.some.injEq, exists_eq_left']

theorem okSetB_sound {s NR fs g hasInit m j} (h : okSetB s NR fs g hasInit m j = true) :
    OKset s NR (InitReleases fs g hasInit) m j := by
  unfold okSetB at h
  simp only [Bool.or_eq_true, Bool.and_eq_true, List.contains_iff_mem, decide_eq_true_eq, List.any_eq_true] at h
  rcases h with h | ⟨hj, h | ⟨q, hq, hr⟩⟩
  · exact Or.inl (mem_take_iff.mp h)
  · exact Or.inr ⟨hj, Or.inl ((initReleasesB_iff fs g hasInit j).mp h)⟩
  · obtain ⟨k', hk, hn⟩ := mem_take_iff.mp hq
    exact Or.inr ⟨hj, Or.inr ⟨k', q, hk, hn, (releasesB_iff s q j).mp hr⟩⟩

theorem liveHypB_sound (ti : TyInfo) (fs : List CP) (hasInit : Bool) (xr kx : Nat) (h : liveHypB ti fs hasInit xr kx = true) :
    LiveHyp (topoStatic fs (buildGraph ti fs hasInit)) (buildGraph ti fs hasInit).cannotReorder
      (buildNodes (buildGraph ti fs hasInit)).after (InitReleases fs (buildGraph ti fs hasInit) hasInit) xr kx := by
  unfold liveHypB at h
  simp only [Bool.and_eq_true, decide_eq_true_eq, Bool.not_eq_true', List.all_eq_true, List.mem_range] at h
  obtain ⟨⟨⟨⟨h1, h2⟩, h3⟩, h4⟩, h5⟩ := h
  have dual := buildNodes_dual (buildGraph ti fs hasInit)
  refine ⟨h1, ?_, h3, fun i j hj => (dual.2.1 i j).mpr ((dual.1 i j).mp hj), ?_, fun j hj => okSetB_sound (h5 j hj)⟩
  · intro he; rewrite [he] at h2; simp at h2
  · intro k p hp j hj
    have hk : k < (buildGraph ti fs hasInit).cannotReorder.length := (List.getElem?_eq_some_iff.mp hp).1
    have := h4 k hk
    rewrite [hp] at this
    simp only [List.all_eq_true, Bool.or_eq_true, Bool.and_eq_true, decide_eq_true_eq] at this
    rcases this j hj with a | ⟨⟨a, b⟩, c⟩
    · exact Or.inl (okSetB_sound a)
    · exact Or.inr ⟨a, b, (releasesB_iff _ xr j).mp c⟩

/-- the condition holds on the example: the Reorder'd injector (position 1) is served by the fixed providers
    before position 2 of the fixed list `[0, 2, 3]`, and the final function waits for it -/
example : liveHypB stdTyInfo (clearReorder c17cExample) false 1 2 = true := by decide +kernel

end Nject
