import NjectProofs.ConcProofs
import NjectGen.Consts
import Nject.Include
/-
  C12 (diagnostics describe the chain that runs): what Debugging lists against what gets closures, both read off the
  include flag (regenerated facts tie the loops of bind.go to it); the debug lock as an interleaving model.
-/
namespace Nject
open Conc

/-- the model of bind.go:179-226: what Debugging reports -/
def namesIncluded (ch : Chain) : List Nat := (ch.filter (·.inc)).map (·.c.id)
def includeExcludeLines (ch : Chain) : List (Bool × Nat) := ch.map fun f => (f.inc, f.c.id)
/-- the model of bind.go:233-244: which providers get closures -/
def generated (ch : Chain) : List Nat := (ch.filter (·.inc)).map (·.c.id)

/-- Debugging lists as included exactly the providers that get closures, in the same (funcs) order -/
theorem C12_debugging_lists_included (ch : Chain) : namesIncluded ch = generated ch := rfl

/-- every supplied provider appears exactly once, as INCLUDED or EXCLUDED according to its flag -/
theorem C12_every_provider_reported (ch : Chain) :
    (includeExcludeLines ch).length = ch.length ∧
    ((includeExcludeLines ch).filter (·.1)).map (·.2) = namesIncluded ch :=
  ⟨List.length_map _, by rewrite [includeExcludeLines, List.filter_map, List.map_map]; rfl⟩

/-- the regenerated facts that tie those two definitions to bind.go: the three loops of the Debugging closure
    filter on `fm.include` (the third lists the rest as EXCLUDED) and the closure-generation loop skips
    exactly the providers with `!fm.include` -/
theorem C12_loops_use_the_include_flag :
    Gen.debugLoops = [1, 1, 2] ∧ Gen.generateLoopSkipsExcluded = true := by
  decide

/-- every non-empty form DetailedError can return starts with the plain error text -/
theorem C12_detailed_error_prefix :
    Gen.detailedErrorStartsWithErr.all id = true ∧ Gen.detailedErrorStartsWithErr ≠ [] := by
  decide

/-- the trace capture keeps the debug (write) lock until it has read the captured output, and every Bind
    holds the read lock around doBind: no other Bind's debug lines can get into a capture (regenerated facts) -/
theorem C12_capture_under_exclusive_lock :
    Gen.captureHoldsLockToTheEnd = true ∧ Gen.bindHoldsReadLock = true := by
  decide

/-- string-level: a concatenation starts with its first part -/
theorem C12_concat_prefix (e rest : List Char) : (e ++ rest).take e.length = e := List.take_left

/-- debug lock: for any mix of Binds (read lock) and trace captures (write lock, debug flag), in any
    interleaving, the flag is only ever set while its owner holds the write lock … -/
theorem C12_debug_flag_implies_writer (sched : List (Nat × Bool)) (h : (lrun sched LState.init).debug = true) :
    ∃ t, (lrun sched LState.init).writer = some t ∧ (lrun sched LState.init).th t = .capturing := by
  have inv := lrun_inv sched _ linit_inv
  cases hw : (lrun sched LState.init).writer with
  | none => exact absurd hw (inv.dbg h)
  | some t => exact ⟨t, rfl, inv.capturing hw⟩

/-- … hence the early `return "already capturing"` of captureDoBindDebugging, which would leave the write
    lock held for ever, is unreachable -/
theorem C12_never_returns_holding_the_lock (sched : List (Nat × Bool)) (t : Nat) :
    (lrun sched LState.init).th t ≠ .stuck :=
  (lrun_inv sched _ linit_inv).noStuck t

/-- a capture that holds the lock can always finish (no step of a capturing thread is blocked) -/
theorem C12_capture_can_finish (s : LState) (t : Nat) (c : Bool) (h : s.th t = .capturing) : (lstep s t c).isSome = true := by
  simp [lstep, h]

/-- … and so can a Bind that holds the read lock -/
theorem C12_bind_can_finish (s : LState) (t : Nat) (c : Bool) (h : s.th t = .reading) : (lstep s t c).isSome = true := by
  simp [lstep, h]

end Nject
