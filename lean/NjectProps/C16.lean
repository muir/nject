import NjectProofs.IncludeRun
/-
  C16 (excluded providers are inert), the part that is a theorem about the include computation:
  the flows over which the final validation decides are computed as if the providers that pruning
  excluded were not in the list.  `providesReturns` skips every provider marked "cannot be included"
  (`providesReturns_skips`, `NjectProofs/IncludeFlows.lean`), so in the chain that Bind accepts such a provider has no dependencies,
  nobody depends on it, and it is on nobody's `uses` / `usedBy` list: whether the remaining providers are
  valid is decided without looking at it.

  (That the pruning itself -- which providers get the mark -- gives the same answer on the shorter list is NOT a
  theorem: findings F5 / F4b are counterexamples on the implementation.  It is decided per chain by the prune pairs.)
-/
namespace Nject

/-- **C16 (final flows)**: whenever the include computation accepts a provider list, a provider that pruning
    excluded (other than the init function, whose bypass parameters are always asked for) leaves no trace in the
    dependency relation of the accepted chain. -/
theorem C16_pruned_providers_leave_no_trace (ti : TyInfo) (funcs : List CP) (cannot0 : List Nat) (pre ch : Chain)
    (hpre : inclusionBeforeFinal ti funcs cannot0 = .ok pre) (h : computeInclusion ti funcs cannot0 = .ok ch)
    (j : Nat) (hj : (pre.get j).cannot = true) (hinit : initPosOf funcs ≠ some j) :
    (ch.get j).uses = [] ∧ (ch.get j).usedBy = [] ∧ ∀ k, j ∉ (ch.get k).uses ∧ j ∉ (ch.get k).usedBy := by
  have hfr : FR pre ch := computeInclusion_FR hpre h
  have hsame : ∀ k, (ch.get k).uses = (pre.get k).uses ∧ (ch.get k).usedBy = (pre.get k).usedBy :=
    fun k => ⟨hfr.proj (·.uses) (fun _ _ _ => rfl) k, hfr.proj (·.usedBy) (fun _ _ _ => rfl) k⟩
  -- the flows were computed skipping the marked providers
  obtain ⟨ch1, _, rfl⟩ := inclusionBeforeFinal_ok hpre
  have nc := providesReturns_skips ti (pruneStages ch1) (initPosOf funcs)
  have hjl : j < (providesReturns ti (pruneStages ch1) (initPosOf funcs)).length := Chain.lt_of_get (P := (·.cannot = true)) hj nofun
  have hbad : ¬ OKp (fun j => ((pruneStages ch1).get j).cannot) (initPosOf funcs) j := by
    intro hok
    rcases hok with hc | hi
    · have := nc.hc j hjl
      rewrite [hj] at this
      simp only at hc
      rewrite [hc] at this; cases this
    · exact hinit hi
  rewrite [(hsame j).1, (hsame j).2]
  refine ⟨(nc.b j hbad).1, (nc.b j hbad).2, fun k => ?_⟩
  rewrite [(hsame k).1, (hsame k).2]
  exact ⟨fun hm => hbad (nc.a k j (List.mem_append_left _ hm)), fun hm => hbad (nc.a k j (List.mem_append_right _ hm))⟩

/-- **C16 (not included)**: whenever the include computation accepts a provider list, a provider that pruning
    excluded is not included in the accepted chain (and keeps its mark): the final validity check only ever takes
    providers out. -/
theorem C16_pruned_providers_are_not_included (ti : TyInfo) (funcs : List CP) (cannot0 : List Nat) (pre ch : Chain)
    (hpre : inclusionBeforeFinal ti funcs cannot0 = .ok pre) (h : computeInclusion ti funcs cannot0 = .ok ch)
    (j : Nat) (hj : (pre.get j).cannot = true) : (ch.get j).inc = false ∧ (ch.get j).cannot = true := by
  obtain ⟨pre', hpre', hv⟩ := computeInclusion_ok h
  cases hpre.symm.trans hpre'
  apply validate_excl hv j
  -- the mark and the exclusion flag agree in what pruning hands on, and the flow computation keeps both
  obtain ⟨ch1, _, rfl⟩ := inclusionBeforeFinal_ok hpre
  rewrite [providesReturns_proj IP.excluded fun _ _ => rfl, ← pruneStages_cannot_eq, ← providesReturns_proj IP.cannot (fun _ _ => rfl) ti _ (initPosOf funcs)]
  exact hj

/-- premises are satisfiable: provider 1 is Shun'd and a farther provider of its type remains; it is excluded, and
    the final function's dependency is provider 0 -/
def c16Example : List CP := [
  { id := 0, cls := .injectorFunc, out := [5], group := .runGroup },
  { id := 1, cls := .injectorFunc, out := [5], shun := true, group := .runGroup },
  { id := 2, cls := .finalFunc, inp := [5], required := true, group := .finalGroup }]

example : (match inclusionBeforeFinal stdTyInfo c16Example [], computeInclusion stdTyInfo c16Example [] with
    | .ok pre, .ok ch => (pre.get 1).cannot && !(ch.get 1).inc && (ch.get 0).inc && (ch.get 2).uses == [0]
    | _, _ => false) = true := by decide +kernel

end Nject
