import NjectProofs.Characterize
import NjectProps.C01C02Bound
import NjectProps.C03C15
import NjectProps.C03Fixpoint
import NjectProps.C14MustConsume
/-
  The include-stage theorems restated for the whole model of `Bind` (`bindModel`: named edits,
  classification, assembly, [the order reorder chose], inclusion, shadowing check, slot assignment):
  for EVERY list of providers with any annotations and named edits and every invoke / init signature,
  if the model binds, the bound chain has the stated shape.
-/
namespace Nject

theorem applyOrder_mem (asm0 asm : Assembled) (order4 : Option (List Nat)) (h : applyOrder asm0 order4 = some asm) :
    ∀ c ∈ asm.funcs, c ∈ asm0.funcs := by
  unfold applyOrder at h
  cases order4 with
  | none => simp only [Option.some.injEq] at h; subst h; exact fun _ hc => hc
  | some o =>
    simp only [Option.map_eq_some_iff] at h
    obtain ⟨fs, hp, rfl⟩ := h
    unfold permuteTo at hp
    dsimp only at hp
    split at hp
    · injection hp with hp
      subst hp
      intro c hc
      obtain ⟨id, _, hf⟩ := List.mem_filterMap.mp hc
      exact List.mem_of_find?_eq_some hf
    · cases hp

theorem bindTail_ok {ti : TyInfo} {asm : Assembled} {cannot4 : List Nat} {bo : BindOut} (h : bindTail ti asm cannot4 = .ok bo) :
    computeInclusion ti asm.funcs cannot4 = .ok bo.chain ∧ checkShadowing bo.chain = true := by
  unfold bindTail at h
  cases hc : computeInclusion ti asm.funcs cannot4 with
  | error e => rewrite [hc] at h; cases e <;> cases h
  | ok ch =>
    rewrite [hc] at h
    dsimp only at h
    by_cases hsh : (!checkShadowing ch) = true
    · rewrite [if_pos hsh] at h; cases h
    · rewrite [if_neg hsh] at h
      have key : ∀ (b : Bool) (x : BindOut),
          (if b = true then (Except.error BindErr.initType : Except BindErr BindOut) else .ok x) = .ok bo → x = bo := by
        intro b x hx; cases b <;> cases hx; rfl
      cases key _ _ h
      exact ⟨rfl, by simpa using hsh⟩

theorem bindModel_stages {ti : TyInfo} {enodes : List ENode} {descs : List PDesc} {inv : Sig} {ini : Option Sig}
    {order4 : Option (List Nat)} {cannot4 : List Nat} {bo : BindOut}
    (h : bindModel ti enodes descs inv ini order4 cannot4 = .ok bo) :
    ∃ order asm0 asm, editAll enodes = .ok order ∧
      assemble (order.filterMap fun n => descs.find? (·.idx == n.idx)) inv ini = some asm0 ∧
      applyOrder asm0 order4 = some asm ∧ bindTail ti asm cannot4 = .ok bo := by
  unfold bindModel at h
  split at h
  · cases h
  · rename_i order he
    split at h
    · cases h
    · rename_i asm0 ha
      split at h
      · cases h
      · rename_i asm hp
        exact ⟨order, asm0, asm, he, ha, hp, h⟩

theorem bindModel_ok {ti : TyInfo} {enodes : List ENode} {descs : List PDesc} {inv : Sig} {ini : Option Sig}
    {order4 : Option (List Nat)} {cannot4 : List Nat} {bo : BindOut}
    (h : bindModel ti enodes descs inv ini order4 cannot4 = .ok bo) :
    ∃ funcs, computeInclusion ti funcs cannot4 = .ok bo.chain ∧ checkShadowing bo.chain = true ∧ ∀ c ∈ funcs, MCok c := by
  obtain ⟨order, asm0, asm, _, ha, hp, ht⟩ := bindModel_stages h
  exact ⟨asm.funcs, (bindTail_ok ht).1, (bindTail_ok ht).2,
    fun c hc => assemble_hasMustConsume _ inv ini asm0 ha c (applyOrder_mem asm0 asm order4 hp c hc)⟩

/-- **C15, whole pipeline**: whenever the model binds, every returned value of an included provider that is not
    ConsumptionOptional has an included receiver listed before it, and no provider overrides a type returned from
    below that it did not receive unless AllowReturnShadowing was given (or it is a fallible injector's error). -/
theorem C15_bound_model (ti : TyInfo) (enodes : List ENode) (descs : List PDesc) (inv : Sig) (ini : Option Sig)
    (order4 : Option (List Nat)) (cannot4 : List Nat) (bo : BindOut)
    (h : bindModel ti enodes descs inv ini order4 cannot4 = .ok bo) :
    returnsConsumedB bo.chain = true ∧
    ∀ (above : List IP) (f : IP) (below : List IP), bo.chain = above ++ f :: below →
      ∀ t ∈ f.c.ret, t ∉ f.c.recv → (∃ g ∈ below, t ∈ g.c.ret) →
        ((f.c.cls = .fallibleStaticInjectorFunc ∨ f.c.cls = .fallibleInjectorFunc) ∧ (t = tError ∨ t = tTerminal)) ∨ t ∈ f.c.shadowOK := by
  obtain ⟨funcs, hc, hs, _⟩ := bindModel_ok h
  exact ⟨C15_bound_chain_consumes_returns ti funcs cannot4 bo.chain hc,
    fun above f below hl t ht hnr hb => C15_no_shadowing bo.chain hs above f below hl t ht hnr hb⟩

/-- **C03, whole pipeline**: whenever the model binds, the bound chain is a fixpoint of the validity check (every
    included provider has included sources for all it takes) and the model never ran out of fuel on the way. -/
theorem C03_bound_model (ti : TyInfo) (enodes : List ENode) (descs : List PDesc) (inv : Sig) (ini : Option Sig)
    (order4 : Option (List Nat)) (cannot4 : List Nat) (bo : BindOut)
    (h : bindModel ti enodes descs inv ini order4 cannot4 = .ok bo) :
    ∀ j, (bo.chain.get j).inc = true → (bo.chain.get j).cannot = false ∧ localCheck bo.chain (bo.chain.get j) = true := by
  obtain ⟨funcs, hc, _⟩ := bindModel_ok h
  exact C03_bound_chain_is_a_fixpoint ti funcs cannot4 bo.chain hc

/-- **C14, whole pipeline**: whenever the model binds, every output an included provider marks MustConsume is taken by
    an included provider listed after it (or by the init function through the invoke bypass). -/
theorem C14_bound_model (ti : TyInfo) (enodes : List ENode) (descs : List PDesc) (inv : Sig) (ini : Option Sig)
    (order4 : Option (List Nat)) (cannot4 : List Nat) (bo : BindOut)
    (h : bindModel ti enodes descs inv ini order4 cannot4 = .ok bo)
    (j : Nat) (hj : (bo.chain.get j).inc = true) (t : Ty) (ht : t ∈ (bo.chain.get j).c.out)
    (hm : (bo.chain.get j).c.mustConsume.contains t = true) (hu : t ≠ tUnused) :
    ∃ q, (bo.chain.get q).inc = true ∧ ((j < q ∧ t ∈ (bo.chain.get q).c.inp) ∨ t ∈ (bo.chain.get q).c.byp) := by
  obtain ⟨funcs, hc, _, hmc⟩ := bindModel_ok h
  have hmcj : MCok (bo.chain.get j).c := by
    rewrite [computeInclusion_c ti funcs cannot4 bo.chain hc j]
    by_cases hjl : j < funcs.length
    · rewrite [← List.getElem_eq_getD (h := hjl)]; exact hmc _ (List.getElem_mem hjl)
    · rewrite [List.getD, List.getElem?_eq_none (Nat.le_of_not_lt hjl)]; rfl
  obtain ⟨q, hq, hcase⟩ := C14_bound_chain_mustconsume_is_consumed ti funcs cannot4 bo.chain hc j hj t ht hm hu hmcj
  exact ⟨q, hq, hcase.imp id And.right⟩

/-- **C01, whole pipeline**: whenever the model binds, every input type of an included provider is supplied by an
    included provider listed before it that outputs the type itself or a type implementing it. -/
theorem C01_bound_model (ti : TyInfo) (enodes : List ENode) (descs : List PDesc) (inv : Sig) (ini : Option Sig)
    (order4 : Option (List Nat)) (cannot4 : List Nat) (bo : BindOut)
    (h : bindModel ti enodes descs inv ini order4 cannot4 = .ok bo)
    (j : Nat) (hj : (bo.chain.get j).inc = true) (t : Ty) (ht : t ∈ (bo.chain.get j).c.inp) (hn : t ≠ tNoType) :
    ∃ p, p < j ∧ (bo.chain.get p).inc = true ∧ ∃ x, x ∈ (bo.chain.get p).c.out ∧ (x = t ∨ ti.implements x t = true) := by
  obtain ⟨funcs, hc, _⟩ := bindModel_ok h
  exact bound_chain_params_are_answered ti funcs cannot4 bo.chain hc (p := .inp) (by simp) j hj t ht hn

/-- **C02, whole pipeline**: whenever the model binds, every type an included provider expects from below is returned by
    an included provider listed after it that returns the type itself or a type implementing it. -/
theorem C02_bound_model (ti : TyInfo) (enodes : List ENode) (descs : List PDesc) (inv : Sig) (ini : Option Sig)
    (order4 : Option (List Nat)) (cannot4 : List Nat) (bo : BindOut)
    (h : bindModel ti enodes descs inv ini order4 cannot4 = .ok bo)
    (j : Nat) (hj : (bo.chain.get j).inc = true) (t : Ty) (ht : t ∈ (bo.chain.get j).c.recv) (hn : t ≠ tNoType) :
    ∃ p, j < p ∧ (bo.chain.get p).inc = true ∧ ∃ x, x ∈ (bo.chain.get p).c.ret ∧ (x = t ∨ ti.implements x t = true) := by
  obtain ⟨funcs, hc, _⟩ := bindModel_ok h
  exact bound_chain_params_are_answered ti funcs cannot4 bo.chain hc (p := .recv) (by simp) j hj t ht hn

end Nject
