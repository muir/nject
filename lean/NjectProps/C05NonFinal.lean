import NjectProofs.EditProofs
/-
  C05, "after the documented NonFinal ... adjustments": what `editAll` (named edits, NonFinal, replacement of generated
  providers, NonFinal again) hands to the rest of Bind.  Whatever the generators' own marks were, in the list that is
  characterized the last position is held by a provider that is not NonFinal (if there is one at all), no generator is
  left, and nothing was lost or duplicated.  `C18_reorderNonFinal_last` and `C18_reorderNonFinal_perm`, which C18 names, speak
  about `reorderNonFinal` alone and are used by the C05 theorems below.
-/
namespace Nject

/-- the last provider not marked NonFinal becomes last, the NonFinal ones behind it keep their order
    in front of it -/
theorem C18_reorderNonFinal_last (l before : List ENode) (f : ENode)
    (h : l.reverse.dropWhile (·.nonFinal) = f :: before) :
    reorderNonFinal l = before.reverse ++ (l.reverse.takeWhile (·.nonFinal)).reverse ++ [f] ∧ f.nonFinal = false := by
  refine ⟨by simp [reorderNonFinal, h], ?_⟩
  have := @List.head_dropWhile_not _ (fun (x : ENode) => x.nonFinal) l.reverse (by rewrite [h]; simp)
  simpa [h] using this

/-- **the NonFinal adjustment moves one provider and nothing else**: either every provider is NonFinal and the list stays as
    it is, or the list is `pre ++ f :: tail` with `f` the last provider not marked NonFinal, and becomes `pre ++ tail ++ [f]`:
    all others keep their listed order -/
theorem C05_NonFinal_moves_only_the_final (l : List ENode) :
    ((∀ n ∈ l, n.nonFinal = true) ∧ reorderNonFinal l = l) ∨
    ∃ pre f tail, l = pre ++ f :: tail ∧ f.nonFinal = false ∧ (∀ x ∈ tail, x.nonFinal = true) ∧
      reorderNonFinal l = pre ++ tail ++ [f] := by
  have h3 := @List.takeWhile_append_dropWhile _ (fun (x : ENode) => x.nonFinal) l.reverse
  have ht : ∀ x ∈ l.reverse.takeWhile (·.nonFinal), x.nonFinal = true :=
    List.all_eq_true.mp (List.all_takeWhile (p := fun x : ENode => x.nonFinal) (l := l.reverse))
  cases hd : l.reverse.dropWhile (·.nonFinal) with
  | nil =>
    rewrite [hd, List.append_nil] at h3
    exact .inl ⟨fun n hn => ht n (by rewrite [h3]; exact List.mem_reverse.mpr hn), by rw [reorderNonFinal, hd]⟩
  | cons f before =>
    obtain ⟨h1, h2⟩ := C18_reorderNonFinal_last l before f hd
    rewrite [hd] at h3
    have hl : l = before.reverse ++ f :: (l.reverse.takeWhile (·.nonFinal)).reverse := by
      conv => lhs; rewrite [← List.reverse_reverse l, ← h3, List.reverse_append, List.reverse_cons, List.append_assoc]
      rfl
    exact .inr ⟨_, f, _, hl, h2, fun x hx => ht x (List.mem_reverse.mp hx), h1⟩

theorem C18_reorderNonFinal_perm (l : List ENode) : (reorderNonFinal l).Perm l := by
  rcases C05_NonFinal_moves_only_the_final l with ⟨_, h⟩ | ⟨pre, f, tail, hl, _, _, h⟩
  · rw [h]
  · rewrite [h, hl, List.append_assoc]
    exact List.Perm.append_left _ List.perm_append_comm

theorem reorderNonFinal_of_last (b : List ENode) (f : ENode) (hf : f.nonFinal = false) :
    reorderNonFinal (b ++ [f]) = b ++ [f] := by
  simp [reorderNonFinal, List.reverse_append, hf]

/-- **the NonFinal adjustment is idempotent**: applying it again (as `characterizeAndFlatten` does after replacing generated
    providers) changes nothing unless the replacement changed the marks -/
theorem C05_NonFinal_adjustment_is_idempotent (l : List ENode) : reorderNonFinal (reorderNonFinal l) = reorderNonFinal l := by
  rcases C05_NonFinal_moves_only_the_final l with ⟨_, h⟩ | ⟨pre, f, tail, _, hf, _, h⟩
  · rw [h, h]
  · rewrite [h]
    exact reorderNonFinal_of_last _ f hf

theorem reorderNonFinal_ends_final (l : List ENode) (h : ∃ n ∈ l, n.nonFinal = false) :
    ∃ b f, reorderNonFinal l = b ++ [f] ∧ f.nonFinal = false := by
  rcases C05_NonFinal_moves_only_the_final l with ⟨hall, _⟩ | ⟨pre, f, tail, _, hf, _, h'⟩
  · obtain ⟨n, hn, hf⟩ := h
    rewrite [hall n hn] at hf; cases hf
  · exact ⟨_, f, h', hf⟩

theorem replaced_not_gen (n : ENode) : n.replaced.gen = false := by
  unfold ENode.replaced; split <;> simp_all

theorem map_replaced_of_no_gen (l : List ENode) (h : l.any (·.gen) = false) : l.map ENode.replaced = l := by
  conv => rhs; rewrite [← List.map_id l]
  refine List.map_congr_left fun n hn => ?_
  have : n.gen = false := by simpa using (List.any_eq_false.mp h) n hn
  simp [ENode.replaced, this]

/-- What `editAll` returns, in one form for both branches: when nothing was generated the replacement is the identity
    and the second NonFinal pass changes nothing. -/
theorem editAll_ok {l r : List ENode} (h : editAll l = .ok r) :
    ∃ l0, handleReplaceByName l = .ok l0 ∧ r = reorderNonFinal ((reorderNonFinal l0).map ENode.replaced) := by
  unfold editAll at h
  cases he : handleReplaceByName l with
  | error e => rewrite [he] at h; cases h
  | ok l0 =>
    rewrite [he] at h
    refine ⟨l0, rfl, ?_⟩
    injection h with h
    rewrite [← h]
    cases hany : (reorderNonFinal l0).any (·.gen) with
    | true => simp only [hany, if_true]
    | false =>
      simp only [hany, Bool.false_eq_true, if_false]
      rw [map_replaced_of_no_gen _ hany, C05_NonFinal_adjustment_is_idempotent]

/-- **the list handed to characterization ends with a provider that is not NonFinal** whenever one exists in it -/
theorem C05_listed_last_is_not_NonFinal (l r : List ENode) (h : editAll l = .ok r) (hx : ∃ n ∈ r, n.nonFinal = false) :
    ∃ b f, r = b ++ [f] ∧ f.nonFinal = false := by
  obtain ⟨l0, -, rfl⟩ := editAll_ok h
  obtain ⟨n, hn, hf⟩ := hx
  exact reorderNonFinal_ends_final _ ⟨n, (C18_reorderNonFinal_perm _).mem_iff.mp hn, hf⟩

/-- **no generator is left** in that list -/
theorem C05_no_generator_left (l r : List ENode) (h : editAll l = .ok r) : ∀ n ∈ r, n.gen = false := by
  obtain ⟨l0, -, rfl⟩ := editAll_ok h
  intro n hn
  obtain ⟨m, _, rfl⟩ := List.mem_map.mp ((C18_reorderNonFinal_perm _).mem_iff.mp hn)
  exact replaced_not_gen m

/-- **nothing is lost or duplicated**: the list is a rearrangement of what the named edits produced, each generator replaced
    by its provider -/
theorem C05_listed_is_a_rearrangement (l r l0 : List ENode) (h : editAll l = .ok r) (he : handleReplaceByName l = .ok l0) :
    r.Perm (l0.map ENode.replaced) := by
  obtain ⟨l0', he', rfl⟩ := editAll_ok h
  cases he.symm.trans he'
  exact (C18_reorderNonFinal_perm _).trans ((C18_reorderNonFinal_perm l0).map _)

/-- **without generated providers `editAll` is named edits followed by one NonFinal adjustment** (what the earlier
    theorems about `handleReplaceByName` and `reorderNonFinal` describe) -/
theorem C05_editAll_without_generators (l : List ENode) (h : ∀ n ∈ l, n.gen = false) :
    editAll l = (handleReplaceByName l).map reorderNonFinal := by
  unfold editAll
  cases he : handleReplaceByName l with
  | error e => rfl
  | ok l0 =>
    simp only [Except.map]
    have : (reorderNonFinal l0).any (·.gen) = false := by
      rewrite [List.any_eq_false]
      intro n hn
      have h1 := (C18_reorderNonFinal_perm l0).mem_iff.mp hn
      simp [h n (handleReplaceByName_mem l l0 he n h1)]
    simp [this]

/-- non-vacuity: [a, endpoint, G] where the generator G (not marked) replaces itself by a NonFinal provider: the endpoint
    is moved behind it by the second pass -/
example : (match editAll [ { idx := 0 }, { idx := 1 }, { idx := 2, gen := true, inf := true } ] with
    | .ok r => r.map (·.idx)
    | .error _ => []) = [0, 2, 1] := by decide +kernel

end Nject
