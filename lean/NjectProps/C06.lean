import NjectProofs.Characterize
/-
  C06.  Classification part: theorems over the REGENERATED registry of characterize.go; every statement is either a
  general fact about first-match classification or a `decide` over the entries of the table as extracted from /repo on
  this run.  List part: `characterizeAndFlatten` never classifies a provider STATIC when one of its inputs is an invoke
  argument or an output of a per-invocation provider listed before it (`C06_taint_sound`).
-/
namespace Nject
open Gen

/-- the extractor recognised every statement of every mutate function -/
theorem C06_registry_fully_extracted :
    (handlerRegistry ++ invokeRegistry).all (fun e => e.unknown.isEmpty && e.flows.all (fun f => match f.2 with | .other _ => false | _ => true)) = true := by
  decide +kernel

/-- the predicates and helper functions that the model binds by name (hand-written transcriptions: `mappable`,
    `canBeMapKey`, `isWrapper`, `hasAnonymousFuncs`, `stripUnused`, ... and the multi-statement predicate bodies) still
    have the source text the model was written against, and every one-expression predicate body is one the
    translator knows -/
theorem C06_hand_modelled_sources_unchanged : modelledByHandChanged = [] := by
  decide +kernel

/-- every STATIC entry of the table demands: a function, marked Cacheable, inputs static, not
    NotCacheable, not last, no anonymous func parameters, not a function pointer -/
theorem C06_static_entries_guarded :
    handlerRegistry.all (fun e => e.group != .staticGroup ||
      ([Pred.pIsFunc, .pMarkedCacheable, .pInStatic, .pNotMarkedNoCache, .pNotLast, .pNoAnonymousFuncs, .pIsNotFuncPointer].all
        (fun p => e.tests.contains p))) = true := by decide +kernel

/-- … and produces something: a value (hasOutputs) or a TerminalError, unless it is a Singleton -/
theorem C06_static_entries_produce :
    handlerRegistry.all (fun e => e.group != .staticGroup ||
      (e.tests.contains .pHasOutputs || e.tests.contains .pReturnsTerminalError || e.tests.contains .pMarkedSingleton)) = true := by
  decide +kernel

/-- every RUN and FINAL entry refuses MustCache (and hence Singleton, which sets MustCache) -/
theorem C06_run_entries_unstaticOkay :
    handlerRegistry.all (fun e => !(e.group == .runGroup || e.group == .finalGroup) || e.tests.contains .pUnstaticOkay) = true := by
  decide +kernel

/-- no handler entry yields the invoke group; literal entries demand a non-function -/
theorem C06_groups_of_table :
    handlerRegistry.all (fun e => e.group != .invokeGroup && (e.group != .literalGroup || e.tests.contains .pNotFunc)) = true := by
  decide +kernel

/-- **static_sound**: a provider is classified STATIC only if it is a function marked Cacheable
    (MustCache/Memoize/Singleton set Cacheable), all its inputs are static, it is not NotCacheable,
    not last, has no anonymous func parameter. -/
theorem C06_static_sound (c : PredCtx) (e : Entry) (h : classify c = some e) (hg : e.group = .staticGroup) :
    c.kindFunc = true ∧ c.cacheable = true ∧ c.inputsAreStatic = true ∧ c.notCacheable = false ∧ c.isLast = false ∧
    c.noAnonymousFuncs = true := by
  have hm := classify_mem h
  have ht := classify_tests_hold h
  have hguard := List.all_eq_true.mp C06_static_entries_guarded e hm
  rewrite [hg] at hguard
  have hall := List.all_eq_true.mp ((Bool.or_eq_true_iff.mp hguard).resolve_left (by decide))
  have key : ∀ p, List.elem p _ = true → Pred.holds c p = true := fun p hp =>
    ht p (List.mem_of_elem_eq_true (hall p (List.mem_of_elem_eq_true hp)))
  exact ⟨key .pIsFunc rfl, key .pMarkedCacheable rfl, key .pInStatic rfl, (Bool.not_eq_true' _).mp (key .pNotMarkedNoCache rfl),
    (Bool.not_eq_true' _).mp (key .pNotLast rfl), key .pNoAnonymousFuncs rfl⟩

/-- NotCacheable overrides Cacheable -/
theorem C06_notcacheable_wins (c : PredCtx) (e : Entry) (h : classify c = some e) (hn : c.notCacheable = true) :
    e.group ≠ .staticGroup := by
  intro hg
  have := (C06_static_sound c e h hg).2.2.2.1
  rewrite [hn] at this; cases this

/-- a provider with a per-invocation input is never hoisted -/
theorem C06_never_hoisted_over_run_input (c : PredCtx) (e : Entry) (h : classify c = some e)
    (hn : c.inputsAreStatic = false) : e.group ≠ .staticGroup := by
  intro hg
  have := (C06_static_sound c e h hg).2.2.1
  rewrite [hn] at this; cases this

/-- MustCache / Singleton: either the provider is STATIC (or a literal) or classification fails,
    i.e. Bind fails -/
theorem C06_mustcache_or_error (c : PredCtx) (hm : c.mustCache = true) :
    classify c = none ∨ ∃ e, classify c = some e ∧ (e.group = .staticGroup ∨ e.group = .literalGroup) := by
  cases h : classify c with
  | none => exact Or.inl rfl
  | some e =>
    refine Or.inr ⟨e, rfl, ?_⟩
    have hmem := classify_mem h
    have ht := classify_tests_hold h
    have h1 := List.all_eq_true.mp C06_run_entries_unstaticOkay e hmem
    have h2 := List.all_eq_true.mp C06_groups_of_table e hmem
    -- a RUN or FINAL entry tests UnstaticOkay, which MustCache fails
    have hno : Pred.pUnstaticOkay ∉ e.tests := fun hin => by
      have hu : (!c.mustCache) = true := ht _ hin
      rewrite [hm] at hu; cases hu
    generalize e.group = g at h1 h2 ⊢
    cases g with
    | staticGroup => exact Or.inl rfl
    | literalGroup => exact Or.inr rfl
    | invokeGroup => cases h2
    | runGroup | finalGroup => exact absurd (List.mem_of_elem_eq_true h1) hno

/-- completeness for plain Cacheable: a non-last function marked Cacheable (not Memoize, not Singleton, not
    NotCacheable) with outputs, static inputs and no anonymous func parameters IS classified STATIC -/
theorem C06_static_complete_cacheable (c : PredCtx)
    (h1 : c.kindFunc = true) (h2 : c.cacheable = true) (h3 : c.inputsAreStatic = true) (h4 : c.notCacheable = false)
    (h5 : c.isLast = false) (h6 : c.noAnonymousFuncs = true) (h7 : c.hasOutputs = true ∨ c.returnsTerminalError = true)
    (h8 : c.memoize = false) (h9 : c.singleton = false) (h10 : c.isFuncPointer = false) (hr : c.reorder = false) :
    ∃ e, classify c = some e ∧ e.group = .staticGroup := by
  -- with the named fields fixed the first-match search evaluates, whatever the other fields are
  cases c with | mk _ _ _ _ _ _ _ _ _ _ ho _ _ rte
  dsimp only at *; subst_vars
  cases rte with
  | true => exact ⟨handlerRegistry[5]'(by decide), by rfl, by decide⟩
  | false =>
    cases ho with
    | true => exact ⟨handlerRegistry[8]'(by decide), by rfl, by decide⟩
    | false => exact absurd h7 (by decide)

/-- non-vacuity: a Cacheable `func() T` in the middle of the list -/
example : ∃ e, classify { cacheable := true } = some e ∧ e.group = .staticGroup :=
  C06_static_complete_cacheable _ rfl rfl rfl rfl rfl rfl (Or.inl rfl) rfl rfl rfl rfl

/-- C04 (cache keys): every registry entry that memoizes requires inputs that can be map keys and
    installs the run-time key check — a memoized provider can never be asked to hash a slice, map or
    func (regenerated registry; decide). -/
theorem C04_memoized_entries_guard_their_keys :
    ∀ e ∈ handlerRegistry, e.memoized = true →
      e.mapKeyCheck = true ∧ Pred.pMappableInputs ∈ e.tests ∧ Pred.pPossibleMapKey ∈ e.tests := by decide +kernel

/-- a head provider that stays STATIC consumes nothing tainted: classified with a tainted input it is classified again
    with `inputsAreStatic = false`, and then no STATIC entry matches -/
theorem headCP_static {p : PDesc} {isLast : Bool} {ns : List Ty} {c : CP} (h : headCP p isLast ns = some c)
    (hg : c.group = .staticGroup) : ∀ t ∈ c.inp, t ≠ tUnused → ns.contains t = false := by
  obtain ⟨c0, -, h⟩ := Option.bind_eq_some_iff.mp h
  intro t ht hnu
  split at h
  · obtain ⟨e, he, hge⟩ := characterize_group p _ false c h
    exact absurd (hge ▸ hg) (C06_never_hoisted_over_run_input _ e he rfl)
  · rename_i hcond
    cases h
    cases hb : ns.contains t with
    | false => rfl
    | true =>
      -- the condition of the `if` holds: `c` is STATIC and `t` is a tainted input of it
      refine absurd (Bool.and_eq_true_iff.mpr ⟨beq_iff_eq.mpr hg, List.any_eq_true.mpr ⟨t, ht, ?_⟩⟩) hcond
      exact Bool.and_eq_true_iff.mpr ⟨bne_iff_ne.mpr hnu, hb⟩

/-- `ns` = the types tainted so far (invoke arguments and outputs of RUN providers listed earlier).
    Every provider that ends up in the static/literal list and is in the STATIC group has no tainted input
    (other than Unused, which is always available in the static set).
    (The recursion passes the grown taint set to the rest of the list, so the statement covers every
    suffix with the taint accumulated up to it.) -/
theorem C06_taint_sound : ∀ (provs : List PDesc) (ns : List Ty) (bi ai : List CP),
    characterizeAll provs ns = some (bi, ai) →
    ∀ c ∈ bi, c.group = .staticGroup → ∀ t ∈ c.inp, t ≠ tUnused → ns.contains t = false := by
  intro provs ns bi ai h c hc hg t ht hnu
  obtain ⟨p, isLast, ns', hh, mono⟩ := characterizeAll_mem h (.inl hc)
  exact mono t (headCP_static hh hg t ht hnu)

end Nject
