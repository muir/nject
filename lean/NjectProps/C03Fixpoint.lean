import NjectProofs.IncludeRun
/-
  C15 / C03, about the algorithm: the chain the include computation accepts is a FIXPOINT of the
  validity check.  In particular every value returned by an included provider has an included
  receiver above it (unless ConsumptionOptional / Unused), and every input of an included provider
  has an included source -- against the final include flags.

  That `providesReturns` records every dependency in both directions (`providesReturns_sym`, `NjectProofs/IncludeRun.lean`),
  and that the consumers it records for a returned type are listed before the returner and do receive
  that type (`NjectProofs/IncludeFlows.lean`, with `IncludeRun.lean` for positions and the
  must-consume switch), is proved for all chains: the fixpoint theorem and the C15 theorem hold of every provider list.
  The driver still evaluates `depsSymB` and `provOKB` on the model's state for every generated chain (record `m5deps`) as a
  cross-check of the definitions.
-/
namespace Nject

/-- **the bound chain is a fixpoint of the validity check** -/
theorem C03_bound_chain_is_a_fixpoint (ti : TyInfo) (funcs : List CP) (cannot0 : List Nat) (ch : Chain)
    (h : computeInclusion ti funcs cannot0 = .ok ch) :
    ∀ j, (ch.get j).inc = true → (ch.get j).cannot = false ∧ localCheck ch (ch.get j) = true := by
  obtain ⟨pre, hpre, hv⟩ := computeInclusion_ok h
  exact (validate_fix true pre _ hv (inclusionBeforeFinal_sym hpre)).2

/-- every input (and every value expected from below) of an included provider has an included source -/
theorem C03_included_providers_have_included_sources (ch : Chain)
    (hfix : ∀ j, (ch.get j).inc = true → (ch.get j).cannot = false ∧ localCheck ch (ch.get j) = true)
    (j : Nat) (hj : (ch.get j).inc = true) :
    (ch.get j).errIn = [] ∧ (ch.get j).errRecv = [] ∧ (ch.get j).errByp = [] ∧
    ∀ e ∈ (ch.get j).usesIn ++ (ch.get j).usesRecv ++ (ch.get j).usesByp, ∃ p ∈ e.2, (ch.get p).inc = true :=
  have h := localCheck_spec (hfix j hj).2
  ⟨h.1.1, h.1.2.1, h.1.2.2, h.2.1⟩

/-- **C15 (algorithm), unconditional**: for every provider list, the chain the include computation
    accepts has, for every returned value of an included provider that is not ConsumptionOptional
    (or Unused), an included receiver listed before it. -/
theorem C15_bound_chain_consumes_returns (ti : TyInfo) (funcs : List CP) (cannot0 : List Nat) (ch : Chain)
    (h : computeInclusion ti funcs cannot0 = .ok ch) : returnsConsumedB ch = true := by
  obtain ⟨pre, hpre, _⟩ := computeInclusion_ok h
  have hfix := C03_bound_chain_is_a_fixpoint ti funcs cannot0 ch h
  have hfr : FR pre ch := computeInclusion_FR hpre h
  have hst := (inclusionBeforeFinal_static ti funcs cannot0 pre hpre).2
  have hprov := inclusionBeforeFinal_prov hpre
  have hc := hfr.proj IP.c fun _ _ _ => rfl
  have hpos := hfr.proj IP.pos fun _ _ _ => rfl
  refine (returnsConsumedB_iff ch).mpr fun f hf hinc t ht hco hun => ?_
  obtain ⟨i, hi, hfi⟩ := List.mem_iff_getElem.mp hf
  obtain rfl := (Chain.get_of_lt ch hi).trans hfi
  obtain ⟨hpi, hmc⟩ := hst i (hfr.1 ▸ hi)
  -- an included consumer `q` is on record; it is listed before `i` and does receive `t`
  obtain ⟨l, hmem, q, hq, hqinc⟩ := (localCheck_spec (hfix i hinc).2).2.2.2 ((hfr.proj IP.mcRet (fun _ _ _ => rfl) i).trans hmc) t ht
    (Bool.eq_false_iff.mpr fun hh => hco (List.contains_iff_mem.mp hh)) hun
  obtain ⟨hqi, hrecv⟩ := hprov i (t, l) q (hfr.proj IP.usedByRet (fun _ _ _ => rfl) i ▸ hmem) hq
  rewrite [← hc i, ← hfr.proj IP.recvTypes (fun _ _ _ => rfl) q] at hrecv
  have hqlen : q < ch.length := Nat.lt_trans hqi hi
  refine ⟨ch.get q, Chain.get_of_lt ch hqlen ▸ List.getElem_mem hqlen, hqinc, ?_,
    List.contains_iff_mem.mp (hrecv (List.contains_iff_mem.mpr ht) hun)⟩
  rewrite [hpos q, (hst q (hfr.1 ▸ hqlen)).1, hpos i, hpi]
  exact hqi

end Nject
