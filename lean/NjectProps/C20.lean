import NjectProofs.HelperProofs
import NjectProofs.ListFacts
import Nject.PostAct
/-
  C20 — generated helpers are faithful.

  `curryModel`/`curriedCall` model utils.go Curry, `FDesc.inputs`/`fillerCall` model filler.go
  MakeStructBuilder and `(*filler).Call`, `saveToCall` models SaveTo's provider.  They are tied to
  /repo on every run by the helper correspondence (random signatures, struct shapes with tags and
  nesting, pointer lists: the implementation's accept/reject verdict, requested inputs, received
  arguments and filled fields are compared with the model's).  That the generated provider is *fed*
  the chain's value for each requested type is C01 (S7 refinement); these theorems carry it to the
  original function's parameters / the struct's fields.

  Reflective providers: the model has no separate notion of a Reflective provider (PDesc carries a
  signature only), so "classified, pruned, ordered and fed exactly like a function" is the statement
  that the implementation's stage dumps do not depend on how the signature was supplied: decided by
  the twin correspondence (every function provider / a random subset flipped; all stage records and
  traces compared) together with the stage correspondence S3/S5/S6/S7 of both twins against the one
  model.

  The post-actions of MakeStructBuilder are modelled apart, for flat structs (`Nject/PostAct.lean`); their
  theorems are the last part of this file.
-/
namespace Nject

/-- Curry accepts only when every parameter of the original function has exactly one source: a
    position of the curried function or a value injected from the chain. -/
theorem C20_curry_every_parameter_has_one_source {isFunc : Ty → Bool} {o oo n no : List Ty} {m : CurryMaps}
    (h : curryModel isFunc o oo n no = some m) :
    oo = no ∧ m.passMap.length = n.length ∧ (m.passMap ++ m.curryMap).Perm (List.range o.length) := by
  obtain ⟨ho, s, ok⟩ := curryModel_ok h
  exact ⟨ho, ok.passMap_length, ok.partition⟩

/-- … of the right type; the injected types are distinct, none of them is a parameter type of the
    curried function, and they are what the provider asks the chain for. -/
theorem C20_curry_types_agree {isFunc : Ty → Bool} {o oo n no : List Ty} {m : CurryMaps}
    (h : curryModel isFunc o oo n no = some m) :
    (∀ j (hj : j < m.passMap.length), o[m.passMap[j]]? = n[j]?)
    ∧ m.curried = m.curryMap.map (fun k => o.getD k 0)
    ∧ m.curried.Nodup ∧ (∀ t ∈ m.curried, t ∉ n) ∧ m.curried ≠ [] := by
  obtain ⟨_, s, ok⟩ := curryModel_ok h
  obtain ⟨a, b, c, d⟩ := ok.types
  refine ⟨a, b, c, d, ?_⟩
  intro hemp
  -- then the curried function's parameters alone would be all of the original's
  have hc : m.curryMap = [] := List.map_eq_nil_iff.mp (b ▸ hemp)
  have hl := ok.partition.length_eq
  rewrite [hc, List.append_nil, ok.passMap_length, List.length_range] at hl
  exact Nat.lt_irrefl _ (hl ▸ ok.fewer)

/-- The curried function equals the original with the curried arguments taken from the chain: the
    original is called with a complete argument list in which argument `j` of the curried call sits at
    `passMap[j]` and injected value `c` at `curryMap[c]`. -/
theorem C20_curried_call_is_original_call {α} {isFunc : Ty → Bool} {o oo n no : List Ty} {m : CurryMaps}
    (h : curryModel isFunc o oo n no = some m) (args injected : List α)
    (ha : args.length = n.length) (hc : injected.length = m.curried.length) :
    (curriedCall m o.length args injected).length = o.length
    ∧ (∀ j (hj : j < m.passMap.length) (hj' : j < args.length),
        (curriedCall m o.length args injected)[m.passMap[j]]? = some (some args[j]))
    ∧ (∀ c (hc1 : c < m.curryMap.length) (hc2 : c < injected.length),
        (curriedCall m o.length args injected)[m.curryMap[c]]? = some (some injected[c]))
    ∧ (∀ i, i < o.length → ∃ v, (curriedCall m o.length args injected)[i]? = some (some v)) := by
  obtain ⟨_, s, ok⟩ := curryModel_ok h
  have lP : m.passMap.length = args.length := ok.passMap_length.trans ha.symm
  have lC : injected.length = m.curryMap.length := hc.trans (by rw [ok.types.2.1, List.length_map])
  have hk {k v} := ok.call args injected ha lC (k := k) (v := v)
  refine ⟨curriedCall_length .., fun j hj hj' => hk (List.mem_append_left _ (getElem_mem_zip hj hj')),
    fun c hc1 hc2 => hk (List.mem_append_right _ (getElem_mem_zip hc1 hc2)), fun i hi => ?_⟩
  -- position `i` of the original is a target of one of the two loops
  rcases List.mem_append.mp (ok.partition.symm.subset (List.mem_range.mpr hi)) with h | h
  · obtain ⟨j, hj, rfl⟩ := List.mem_iff_getElem.mp h
    exact ⟨_, hk (List.mem_append_left _ (getElem_mem_zip hj (lP ▸ hj)))⟩
  · obtain ⟨c, hc1, rfl⟩ := List.mem_iff_getElem.mp h
    exact ⟨_, hk (List.mem_append_right _ (getElem_mem_zip hc1 (lC ▸ hc1)))⟩

-- non-vacuity: func(a N0, b N1, c N0, d N2) curried to func(c' N0, a' N0) with N1, N2 from the chain
example : curryModel (fun _ => false) [40, 41, 40, 42] [43] [40, 40] [43]
    = some { passMap := [0, 2], curryMap := [1, 3], curried := [41, 42] } := by decide +kernel
example : curryModel (fun _ => false) [40, 41, 41] [] [40] [] = none := by decide +kernel   -- same type curried twice
example : curryModel (fun _ => false) [40, 40, 41] [] [40] [] = none := by decide +kernel   -- more N0 than the curried function has

/-- The builder asks for exactly the exported, non-skipped fields, recursively for nested structs
    that are not filled whole. -/
theorem C20_builder_inputs_exact (id : Ty) (fs : FFields) (l : List (Path × Ty))
    (h : (FDesc.struct id fs).inputs [] = some l) (x : Path × Ty) : x ∈ l ↔ Fills fs [] 0 x := by
  simp only [FDesc.inputs] at h
  exact ⟨(fs.inputs_spec [] 0 l h).1 x, fun hf => FFields.inputs_complete hf l h⟩

/-- No field is written twice and no write lands inside a whole-filled nested struct. -/
theorem C20_builder_writes_do_not_overlap (d : FDesc) (l : List (Path × Ty)) (h : d.inputs [] = some l) :
    NoOverlap l := FDesc.inputs_noOverlap d [] l h

/-- Every filled field holds the chain's value for its type after the call (for a whole-filled
    nested struct: every leaf below it comes from that value); every other leaf keeps its zero value. -/
theorem C20_builder_fills_fields (d : FDesc) (supply : Ty → Nat) (ins : List (Path × Ty))
    (h : d.inputs [] = some ins) :
    (∀ x ∈ ins, ∀ suffix, (fillerCall ins (ins.map fun pt => supply pt.2)).get (x.1 ++ suffix) = supply x.2)
    ∧ (∀ p, (∀ x ∈ ins, ¬ x.1 <+: p) → (fillerCall ins (ins.map fun pt => supply pt.2)).get p = 0) := by
  have hno := FDesc.inputs_noOverlap d [] ins h
  exact ⟨fun x hx suffix => filler_fills ins hno (fun pt => supply pt.2) x hx suffix 0,
         fun p hp => filler_leaves_rest ins (fun pt => supply pt.2) p 0 hp⟩

-- non-vacuity: struct{ A N0; b N1; C struct{ D N2 `nofill`; E N3 }; F T0 `whole`; G N1 `-` }
def exampleStruct : FDesc :=
  .struct 100 (.cons true [] (.leaf 40) (.cons false [] (.leaf 41)
    (.cons true [] (.struct 101 (.cons true [.nofill] (.leaf 42) (.cons true [] (.leaf 43) .nil)))
    (.cons true [.whole] (.struct 44 (.cons true [] (.leaf 45) .nil)) (.cons true [.skip] (.leaf 41) .nil)))))
example : exampleStruct.inputs [] = some [([0], 40), ([2, 1], 43), ([3], 44)] := by decide +kernel
example : (FDesc.struct 100 (.cons true [.whole] (.leaf 40) .nil)).inputs [] = none := by decide +kernel

/-- SaveTo stores exactly the injected values: pointer `j` receives injected value `j`. -/
theorem C20_saveTo_stores_injected (ins : List Nat) (j : Nat) (hj : j < ins.length) :
    (saveToCall ins.length ins)[j]? = some (some ins[j]) := by
  have hr : j < (List.range ins.length).length := by rewrite [List.length_range]; exact hj
  have hm := getElem_mem_zip hr hj
  rewrite [List.getElem_range] at hm
  exact setAll_hit some _ (List.replicate ins.length none) j ins[j]
    (by rewrite [List.map_fst_zip (Nat.le_of_eq List.length_range)]; exact List.nodup_range) hm
    (by rewrite [List.length_replicate]; exact hj)

theorem StructVal.getOr_zero (s : StructVal) (p : Path) : s.getOr p 0 = s.get p := rfl

/-- **FillExisting keeps what it does not fill**: a leaf that lies under none of the filled field
    paths keeps the value the given struct held -/
theorem C20_fill_existing_keeps_unfilled (ins : List (Path × Ty)) (f : Path × Ty → Nat) (p : Path) (base : Nat)
    (h : ∀ x ∈ ins, ¬ x.1 <+: p) : (fillerCall ins (ins.map f)).getOr p base = base :=
  filler_leaves_rest ins f p base h

/-- … and fills the others exactly as a fresh struct would be filled -/
theorem C20_fill_existing_fills_like_fresh (d : FDesc) (supply : Ty → Nat) (ins : List (Path × Ty))
    (h : d.inputs [] = some ins) (base : Nat) :
    ∀ x ∈ ins, ∀ suffix, (fillerCall ins (ins.map fun pt => supply pt.2)).getOr (x.1 ++ suffix) base = supply x.2 :=
  fun x hx suffix => filler_fills ins (FDesc.inputs_noOverlap d [] ins h) (fun pt => supply pt.2) x hx suffix base

/-
  Post-actions.  `paPlan` transcribes which post-action providers MakeStructBuilder creates for a
  flat struct (tags left to right, by name, by type; `-` stops everything after it; pointer actions
  switch the fill off unless `fill`/WithFill say otherwise) and lists them in the order the chain
  runs them.  Tied to /repo by the post-action correspondence (random structs, tags, registrations,
  WithFill / MatchToOpenInterface options, pointer and value models): verdict, requested inputs, the
  sequence of actions with what each was handed, and the final struct.
-/

def PAKind.rank : PAKind → Nat
  | .tag => 0 | .name => 1 | .type => 2

theorem filter_kind_le (l : List PAct) {k k' : PAKind} (h : k.rank ≤ k'.rank) :
    ∀ a ∈ l.filter (·.kind == k), ∀ b ∈ l.filter (·.kind == k'), a.kind.rank ≤ b.kind.rank := fun a ha b hb => by
  rewrite [beq_iff_eq.mp (List.mem_filter.mp ha).2, beq_iff_eq.mp (List.mem_filter.mp hb).2]; exact h

/-- **Documented order.**  Every by-tag action runs before every by-name action, and those before
    every by-type action. -/
theorem C20_postactions_in_documented_order (opts : PAOptions) (fields : List PField) (plan : PAPlan)
    (h : paPlan opts fields = some plan) :
    plan.acts.Pairwise (fun a b => a.kind.rank ≤ b.kind.rank) := by
  unfold paPlan at h
  obtain ⟨sts, -, rfl⟩ := Option.map_eq_some_iff.mp h
  have same := fun (k : PAKind) => List.pairwise_of_forall_mem_list (filter_kind_le (sts.flatMap (·.acts)) (Nat.le_refl k.rank))
  refine List.pairwise_append.mpr ⟨List.pairwise_append.mpr ⟨same .tag, same .name, filter_kind_le _ (by decide)⟩,
    same .type, fun a ha b hb => ?_⟩
  rcases List.mem_append.mp ha with ha | ha
  · exact filter_kind_le _ (by decide) a ha b hb
  · exact filter_kind_le _ (by decide) a ha b hb

/-- Nothing is lost or invented by the ordering: the actions that run are exactly the actions of the
    fields. -/
theorem C20_postactions_are_the_fields_actions (opts : PAOptions) (fields : List PField) (plan : PAPlan)
    (sts : List FSt) (hs : allFields opts fields 0 = some sts) (h : paPlan opts fields = some plan) (a : PAct) :
    a ∈ plan.acts ↔ a ∈ sts.flatMap (·.acts) := by
  unfold paPlan at h
  rewrite [hs] at h
  simp only [Option.map_some, Option.some.injEq] at h
  subst h
  simp only [List.mem_append, List.mem_filter, beq_iff_eq]
  constructor
  · rintro ((h | h) | h) <;> exact h.1
  · intro h
    cases hk : a.kind with
    | tag => exact Or.inl (Or.inl ⟨h, rfl⟩)
    | name => exact Or.inl (Or.inr ⟨h, rfl⟩)
    | type => exact Or.inr ⟨h, rfl⟩

/-- `-` (or `skip`) on a field: nothing registered after it applies to that field — in particular no
    by-name and no by-type action — and the field is not filled unless a later `fill` says so. -/
theorem C20_hard_skip_stops_actions (i : Nat) (t : Ty) (kind : PAKind) (o : PAOpt) (st : FSt)
    (h : st.hardSkip = true) : handleFiller i t kind o st = some st := by
  unfold handleFiller
  simp [h]

-- non-vacuity: struct{ A N0; B N1 `nject:"pa1"`; C N2 } with ByType(func(*N0)), ByName("C", func(any)), ByTag("pa1", func(*N1))
def exOpts : PAOptions :=
  { byTag := [(1, { fn := .ptr 41 })], byName := [(2, { fn := .anyval })], byType := [{ fn := .ptr 40 }], pointerModel := true }
def exFields : List PField := [⟨true, 40, []⟩, ⟨true, 41, [.custom 1]⟩, ⟨true, 42, []⟩]
example : (paPlan exOpts exFields).map (·.acts.map (·.kind)) = some [.tag, .name, .type] := by decide +kernel
example : (paPlan exOpts exFields).map (·.filled) = some [false, false, true] := by decide +kernel
-- a typed action aimed at a field of another type is refused
example : paPlan { exOpts with byName := [(2, { fn := .ptr 41 })] } exFields = none := by decide +kernel

end Nject
