import NjectProofs.ConcProofs
import NjectGen.Micro
import Nject.Exec
/-
  C08, C09, C10 — theorems over the interleaving models, and `decide`d facts saying the closures
  extracted from /repo on this run follow the discipline the models assume.  One module for the three
  properties: the extracted micro-programs are one table, and a change of any of them is reported by all three checks.
-/
namespace Nject
open Conc

/-- for every number of threads, every schedule and every history of keys: the function is really
    called at most once per key -/
theorem C09_at_most_once_per_key {K V : Type} [DecidableEq K] (f : K → Nat → V) (sched : List (Nat × K)) :
    ((crun f sched CState.init).calls.map (·.1)).Nodup :=
  (run_inv f sched _ (init_inv f)).callsNodup

/-- every use of a key (hit or miss, any thread) returns exactly the result of that one call -/
theorem C09_hit_returns_stored {K V : Type} [DecidableEq K] (f : K → Nat → V) (sched : List (Nat × K))
    (t : Nat) (k : K) (v : V) (h : (crun f sched CState.init).th t = .done k v) :
    ∃ i, (k, i) ∈ (crun f sched CState.init).calls ∧ v = f k i :=
  (run_inv f sched _ (init_inv f)).doneOK h

/-- what is stored is never altered: every cache entry is the result of the logged call for its key -/
theorem C09_cache_entries_are_call_results {K V : Type} [DecidableEq K] (f : K → Nat → V) (sched : List (Nat × K))
    (k : K) (v : V) (h : (k, v) ∈ (crun f sched CState.init).cache) :
    ∃ i, (k, i) ∈ (crun f sched CState.init).calls ∧ v = f k i :=
  (run_inv f sched _ (init_inv f)).cacheOK k v h

/-- mutual exclusion: at most one thread is between Lock and the deferred Unlock -/
theorem C09_mutual_exclusion {K V : Type} [DecidableEq K] (f : K → Nat → V) (sched : List (Nat × K))
    (t1 t2 : Nat) (h1 : holds (crun f sched CState.init) t1) (h2 : holds (crun f sched CState.init) t2) : t1 = t2 :=
  have inv := run_inv f sched _ (init_inv f)
  Option.some.inj ((inv.lock_of_holds h1).symm.trans (inv.lock_of_holds h2))

/-- the four cachers extracted from cache.go follow the discipline (run-time key check, then lookup, call and
    store under one mutex held to the end), each with a key array as large as its arity threshold -/
theorem C09_cachers_wellLocked :
    wellLocked 3 Gen.cacher3 = true ∧ wellLocked 10 Gen.cacher10 = true ∧
    wellLocked 30 Gen.cacher30 = true ∧ wellLocked 90 Gen.cacher90 = true := by decide +kernel

theorem C09_thresholds : Gen.cacherThresholds = [3, 10, 30, 90] := by decide +kernel

/-- one cacher per provider id, shared by every chain: lookup and insertion in the registry under `lockLock` -/
theorem C09_registry_locked : wellRegistered Gen.generateCache = true := by decide +kernel

/-- model of `fillKeyFromInputs`: what one input contributes to the map key -/
inductive KeyElem where
  | val (v : Val)          -- v.Interface()
  | str (s : String)       -- a string input
  | noValue                -- nil interface / invalid value / padding (a value of an unexported type)
deriving DecidableEq, Repr

inductive KeyInput where
  | nil | value (v : Val) | string (s : String)
deriving DecidableEq, Repr

def keyOf : KeyInput → KeyElem
  | .nil => .noValue
  | .value v => .val v
  | .string s => .str s

/-- key of a tuple in a key array of size `n` (padding with `noValue`) -/
def tupleKey (n : Nat) (a : List KeyInput) : List KeyElem := a.map keyOf ++ List.replicate (n - a.length) .noValue

theorem keyOf_inj : ∀ x y : KeyInput, keyOf x = keyOf y → x = y := by
  intro x y h
  cases x <;> cases y <;> cases h <;> rfl

/-- distinct input tuples of the same arity get distinct keys -/
theorem C09_key_injective (n : Nat) (a b : List KeyInput) (hlen : a.length = b.length)
    (h : tupleKey n a = tupleKey n b) : a = b :=
  (List.map_inj_right keyOf_inj).mp (List.append_inj_left h (by rw [List.length_map, List.length_map, hlen]))

/-- any threads, any schedule: the body runs at most once -/
theorem C10_once_at_most_once {V : Type} (body : Nat → V) (dflt : V) (sched : List Nat) :
    (orun body dflt sched OState.init).nruns ≤ 1 := by
  have inv := orun_inv body dflt sched _ (oinit_inv body)
  cases hf : (orun body dflt sched OState.init).finished with
  | true => rewrite [(inv.fin hf).2.1]; exact Nat.le_refl 1
  | false => rewrite [inv.notFin hf]; exact Nat.zero_le 1

/-- every caller that returned observed the result of that single execution, and it did run -/
theorem C10_all_observe_the_one_result {V : Type} (body : Nat → V) (dflt : V) (sched : List Nat) (t : Nat) (v : V)
    (h : (orun body dflt sched OState.init).th t = .done v) :
    v = body 0 ∧ (orun body dflt sched OState.init).nruns = 1 := by
  have inv := orun_inv body dflt sched _ (oinit_inv body)
  obtain ⟨hf, hv⟩ := inv.doneOK h
  exact ⟨hv, (inv.fin hf).2.1⟩

/-- nobody returns from Do before the body has completed -/
theorem C10_no_return_before_completion {V : Type} (body : Nat → V) (dflt : V) (sched : List Nat) (t : Nat) (v : V)
    (h : (orun body dflt sched OState.init).th t = .done v) :
    (orun body dflt sched OState.init).finished = true :=
  ((orun_inv body dflt sched _ (oinit_inv body)).doneOK h).1

theorem C10_closures_wellOnced :
    wellOnced Gen.singletonClosure = true ∧ wellOncedInit Gen.initImp = true ∧ wellOncedLazy Gen.lazyInit = true ∧
    wellRegistered Gen.generateSingleton = true := by decide +kernel

/-- sequential reading: later init calls ignore their arguments and return the same values -/
theorem C10_init_idempotent (c : Compiled) (b : Beh) (s : Bound) (a1 a2 : List Val) (h : s.staticDone = true) :
    (c.execInit b s a1).1 = (c.execInit b s a2).1 ∧ (c.execInit b s a1).2 = s := by
  unfold Compiled.execInit
  cases c.init with
  | none => exact ⟨rfl, rfl⟩
  | some sig => simp [h]

theorem C08_invoke_wellIsolated : wellIsolatedInvoke Gen.invokeImpl = true := by decide +kernel

/-- an invocation never writes the shared base values: whatever it produced is invisible to the next one -/
theorem C08_invoke_preserves_base (c : Compiled) (b : Beh) (s : Bound) (args : List Val)
    (h : (c.init.isNone && !s.staticDone) = false) :
    (c.execInvoke b s args).2.base = s.base ∧ (c.execInvoke b s args).2.staticDone = s.staticDone := by
  simp [Compiled.execInvoke, h]

/-- the values an invocation works on are a function of the base values and its own arguments only -/
theorem C08_invocation_input_is_private (c : Compiled) (b : Beh) (s1 s2 : Bound) (args : List Val)
    (h1 : (c.init.isNone && !s1.staticDone) = false) (h2 : (c.init.isNone && !s2.staticDone) = false)
    (hb : s1.base = s2.base) (hst : s1.st = s2.st) :
    (c.execInvoke b s1 args).1 = (c.execInvoke b s2 args).1 := by
  simp [Compiled.execInvoke, h1, h2, hb, hst]

end Nject
