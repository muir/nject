import NjectProofs.IncludeFuel
import NjectProofs.IncludeKeep
import NjectProofs.IncludeClusters
import NjectProofs.IncludeRun
/-
  The include computation's loops end within the fuel the model gives them.  Validation never answers "out of fuel", so
  every error the model reports is one of the implementation's own (a Required or wanted provider that cannot be included,
  or the final "internal error"): the fuel is no part of the trusted base of the C03 / C14 / C15 theorems, which speak about
  the accepted (`.ok`) outcomes.  The loop that drops unused providers, the keep-closure and the rounds of trial eliminations are over
  before their fuel: more fuel, same answer.
-/
namespace Nject

/-- **C03/C14/C15 (algorithm)**: the worklist of `validateChainMarkIncludeExclude` terminates (at most
    `2·n + 1` passes) for every chain, whatever the dependency records look like -/
theorem C03_validation_always_ends (b : Bool) (ch : Chain) : validate b ch ≠ .error .fuel :=
  validate_never_out_of_fuel b ch

/-- the include computation as a whole never reports "out of fuel" -/
theorem C03_include_never_out_of_fuel (ti : TyInfo) (funcs : List CP) (cannot0 : List Nat) :
    computeInclusion ti funcs cannot0 ≠ .error .fuel :=
  fun h => (computeInclusion_error h).elim nofun (validate_never_out_of_fuel _ _)

/-- the loop that drops unused providers (`eliminateUnused`, called from `pruneStages` with exactly this
    fuel) has used up its work list before the fuel: more fuel gives the same chain.  (Each step takes one
    entry off the work list; eliminating a provider -- at most once each -- puts its `uses` on it.) -/
theorem C03_unused_elimination_fuel_is_enough (ch : Chain) (extra : Nat) :
    eliminateUnused (ch.length + (ch.map (·.uses.length)).sum + 8 + extra) (List.range ch.length) ch
      = eliminateUnused (ch.length + (ch.map (·.uses.length)).sum + 8) (List.range ch.length) ch := by
  exact fuel_stable (eliminateUnused · (List.range ch.length) ch) (fun n hn => eliminateUnused_succ n _ ch hn) extra
    (Nat.le_trans (elimMeasure_range_le ch) (Nat.le_add_right _ 8))

/-- the keep-closure of `proposeEliminations` (either direction, started from any seeds taken from the chain's
    positions, with exactly the fuel `proposeEliminations` gives it) has used up its work list before the fuel: more
    fuel gives the same set.  (Each step takes one entry off the work list; a provider -- when it is first kept, at
    most once each -- adds at most one entry per type it asks for.) -/
theorem C03_keep_closure_fuel_is_enough (ch : Chain) (down : Bool) (seeds : List Nat) (hs : seeds.length ≤ ch.length) (extra : Nat) :
    keepClosure ch down (ch.length + (ch.map fun f => (f.usesIn ++ f.usesByp).length + f.usesRecv.length).sum + 8 + extra) seeds []
      = keepClosure ch down (ch.length + (ch.map fun f => (f.usesIn ++ f.usesByp).length + f.usesRecv.length).sum + 8) seeds [] := by
  exact fuel_stable (keepClosure ch down · seeds []) (fun n hn => keepClosure_succ ch down n seeds [] hn) extra
    (Nat.le_trans (kcMeasure_start_le ch down seeds hs) (Nat.le_add_right _ 8))

/-- **C16 (the elimination rounds end)**: on a chain without Clusters -- the chains C16 is claimed for -- the rounds of
    trial eliminations (include.go:181-192, "propose again until nothing more can be removed") are over within the
    `length + 1` rounds the model allows: more fuel gives the same chain.  (A trial sets one exclusion flag and either
    keeps it or puts it back, so a round never lowers the number of excluded providers; a round that is followed by
    another one has raised it; it cannot exceed the length.) -/
theorem C16_elimination_rounds_fuel_is_enough (ch : Chain) (hn : NoCl ch) (extra : Nat) :
    proposalLoop (ch.length + 1 + extra) ch = proposalLoop (ch.length + 1) ch :=
  proposalLoop_stable (fun _ _ _ hc hS => trial_NoCl hc hS) ch hn extra

/-- **C03/C16 (the elimination rounds end, Clusters included)**: for every provider list that passes the first
    validation, the rounds of trial eliminations in `pruneStages` are over within the `length + 1` rounds the model
    allows -- more fuel gives the same chain.  With Clusters this rests on the coherence of the cluster lists that
    `clusters` builds and that `eliminateUnused` and the trials keep (`CC`): the members of a Cluster are excluded
    together and put back together, so a round never lowers the number of excluded providers. -/
theorem C03_elimination_rounds_always_end (ti : TyInfo) (funcs : List CP) (cannot0 : List Nat) (ch1 : Chain)
    (hv : firstValidation ti funcs cannot0 = .ok ch1) (extra : Nat) :
    let a := clusters (ch1.map fun f => if f.cannot then { f with excluded := true, inc := false } else f)
    let b := eliminateUnused (a.length + (a.map (·.uses.length)).sum + 8) (List.range a.length) a
    proposalLoop (a.length + 1 + extra) b = proposalLoop (a.length + 1) b := by
  intro a b
  have cca := clusters_CC _ (map_cannot_fresh fun j => (firstValidation_fresh ti funcs cannot0 ch1 hv j).1)
  have ⟨ccb, lb⟩ := eliminateUnused_CC (a.length + (a.map (·.uses.length)).sum + 8) (List.range a.length) a cca
  exact lb ▸ proposalLoop_stable (fun _ _ _ hc hS => trial_CC hc hS) b ccb extra

/-- the measure argument is not vacuous: a chain of two providers where the second cannot be satisfied
    needs a second pass -/
example : (match validate true (providesReturns stdTyInfo (initState
    [{ id := 0, cls := .injectorFunc, out := [5], group := .runGroup },
     { id := 1, cls := .injectorFunc, inp := [5, 6], out := [7], group := .runGroup },
     { id := 2, cls := .finalFunc, inp := [5], required := true, group := .finalGroup }] []) none) with
    | .ok ch => ch.map (fun (f : IP) => f.inc)
    | .error _ => []) = [true, false, true] := by decide +kernel

end Nject
