import NjectProps.C03Fixpoint
/-
  C14, about the algorithm: in the chain the include computation accepts, every output that an
  included provider marks MustConsume is taken by an INCLUDED provider -- one listed after it that
  has the type among its inputs, or the init function of an invoke/init pair that takes it as a
  parameter bypassing the invoke function.  Unconditional: it follows from the fixpoint theorem
  (`C03_bound_chain_is_a_fixpoint`), from where the consumers recorded for an output come from
  (`providesReturns_provDown`) and from the must-consume switch being the classification's
  (`inclusionBeforeFinal_mcOut`).

  What it does NOT say (known finding F12): that the consumer's NEAREST included source of the type is
  this provider -- another included provider of the same type may sit in between.  That stronger
  reading is checked per generated chain (`mustConsumeOKB`, record `v5`) against the finding's signature.
-/
namespace Nject

/-- **C14 (algorithm), unconditional** -/
theorem C14_bound_chain_mustconsume_is_consumed (ti : TyInfo) (funcs : List CP) (cannot0 : List Nat) (ch : Chain)
    (h : computeInclusion ti funcs cannot0 = .ok ch)
    (j : Nat) (hj : (ch.get j).inc = true) (t : Ty) (ht : t ∈ (ch.get j).c.out)
    (hm : (ch.get j).c.mustConsume.contains t = true) (hu : t ≠ tUnused)
    (hhas : (ch.get j).c.hasMustConsume = !(ch.get j).c.mustConsume.isEmpty) :
    ∃ q, (ch.get q).inc = true ∧
      ((j < q ∧ t ∈ (ch.get q).c.inp) ∨ (initPosOf funcs = some q ∧ t ∈ (ch.get q).c.byp)) := by
  have hfix := C03_bound_chain_is_a_fixpoint ti funcs cannot0 ch h
  obtain ⟨pre, hpre, hv⟩ := computeInclusion_ok h
  have hfr := validate_FR hv
  have hc := hfr.proj IP.c fun _ _ _ => rfl
  have hmc : (ch.get j).mcOut = true := by
    rewrite [hfr.proj IP.mcOut fun _ _ _ => rfl, inclusionBeforeFinal_mcOut ti funcs cannot0 pre hpre j, ← hc j, hhas]
    cases hl : (ch.get j).c.mustConsume with
    | nil => rewrite [hl] at hm; cases hm
    | cons a l => rfl
  obtain ⟨l, hmem, q, hq, hqinc⟩ := (localCheck_spec (hfix j hj).2).2.2.1 hmc t ht hm hu
  refine ⟨q, hqinc, ?_⟩
  rewrite [hc q]
  obtain ⟨ch1, _, rfl⟩ := inclusionBeforeFinal_ok hpre
  exact providesReturns_provDown ti _ (initPosOf funcs) j (t, l) q (hfr.proj IP.usedByOut (fun _ _ _ => rfl) j ▸ hmem) hq

/-- the validator run on the implementation's bound chain says what it should -/
theorem C14_mustconsume_taken_validator (ch : Chain) (h : mustConsumeTakenB ch = []) :
    ∀ f ∈ ch, f.inc = true → ∀ t ∈ f.c.mustConsume, t ≠ tUnused → f.c.out.contains t = true →
      ∃ g ∈ ch, g.inc = true ∧ ((g.pos > f.pos ∧ g.c.inp.contains t = true) ∨
        (((ch.find? fun f => f.c.cls == .initFunc).map (·.pos)) = some g.pos ∧ g.c.byp.contains t = true)) := by
  intro f hf hinc t ht hu hout
  have hf' := List.filter_eq_nil_iff.mp (List.map_eq_nil_iff.mp h) f hf
  rewrite [hinc, Bool.true_and, List.any_eq_true] at hf'
  have h2 := fun hh => hf' ⟨t, ht, hh⟩
  rewrite [bne_iff_ne.mpr hu, hout, Bool.true_and, Bool.true_and, Bool.not_eq_true'] at h2
  obtain ⟨g, hg, hp⟩ := List.any_eq_true.mp (Bool.of_not_eq_false h2)
  simp only [Bool.and_eq_true, Bool.or_eq_true, decide_eq_true_eq, beq_iff_eq] at hp
  exact ⟨g, hg, hp.1, hp.2⟩

/-- premises are satisfiable: a provider of a MustConsume type followed by its consumer -/
def c14Example : List CP := [
  { id := 0, cls := .injectorFunc, out := [5], mustConsume := [5], hasMustConsume := true, group := .runGroup },
  { id := 1, cls := .finalFunc, inp := [5], required := true, group := .finalGroup }]

example : (match computeInclusion stdTyInfo c14Example [] with
    | .ok ch => (ch.get 0).inc && (ch.get 0).c.out.contains 5 && (ch.get 0).c.mustConsume.contains 5 &&
                (ch.get 0).c.hasMustConsume == !(ch.get 0).c.mustConsume.isEmpty && (ch.get 1).inc
    | .error _ => false) = true := by decide +kernel

end Nject
