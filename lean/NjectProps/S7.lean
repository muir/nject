import NjectProofs.Machine
/-
  Property theorems for C01, C02, C05, C07 and the run-time part of C04 (the RUN/STATIC interpreter).
-/
namespace Nject

/-- For every compiled chain accepted by the validator, every behaviour of the user's providers
    (wrappers calling inner 0,1,…,n times with arguments depending on earlier results; fallible
    injectors failing or not) and every history of init/invoke calls, `Exec` (slot array, copies,
    aliasing as in generate.go) and `Spec` (environments) return the same values and produce the
    same trace of provider calls with the same arguments. -/
theorem S7_exec_refines_spec (c : Compiled) (b : Beh) (h : checkWF c = none) (ops : List BOp) :
    (c.execHistory b ops c.bindState).1 = (c.specHistory b ops c.specBindState).1 ∧
    (c.execHistory b ops c.bindState).2.st.trace = (c.specHistory b ops c.specBindState).2.st.trace :=
  have := exec_refines_spec c b h ops _ _ (bindState_rel c (checkWF_sound c h))
  ⟨this.1, congrArg St.trace this.2⟩

/-- In `Spec` the arguments of a provider are, per parameter, the environment's entry for the
    (remapped) parameter type. -/
theorem C01_spec_args_are_env (b : Beh) (errTy : Ty) (fin : Node) (down : Env) (st : St) :
    specNodes b errTy fin [] down st =
      ((Env.empty.set fin.rets (callFn b fin.id false (fin.ins.map down.rd) st).1),
       (callFn b fin.id false (fin.ins.map down.rd) st).2) := rfl

/-- "most recently supplied": after a provider's results are written, reading type `t` gives the
    last result of that type if there is one, and otherwise whatever was there before. -/
theorem C01_nearest_write (e : Env) : ∀ (ts : List Ty) (xs : List Val) (t : Ty),
    (e.set ts xs).rd t = match (ts.zip xs).reverse.lookup t with
      | some x => x
      | none => e.rd t := by
  intro ts
  induction ts generalizing e with
  | nil => intro xs t; rfl
  | cons t0 ts ih =>
    intro xs t
    cases xs with
    | nil => rfl
    | cons x xs =>
      rewrite [Env.set, ih (e.set1 t0 x) xs t, List.zip_cons_cons, List.reverse_cons, List.lookup_append]
      cases List.lookup t (ts.zip xs).reverse with
      | some y => rfl
      | none =>
        rewrite [List.lookup_cons]
        cases hb : t == t0 with
        | true => rewrite [eq_of_beq hb, rd_set1_same]; rfl
        | false => rewrite [rd_set1_other e t0 t x (beq_eq_false_iff_ne.mp hb)]; rfl

/-- a type a provider does not write keeps the value supplied further upstream -/
theorem C01_unwritten_type_keeps_upstream_value (e : Env) (ts : List Ty) (xs : List Val) (t : Ty)
    (h : t ∉ ts) : (e.set ts xs).rd t = e.rd t := by
  simp [Env.rd, set_frame t ts xs e h]

/-- the slot array represents exactly that environment: distinct types never share a value
    (`Rel` is stated per type through an injective slot map) -/
theorem C01_slots_represent_env (m : Maps) (len : Nat) (hs : SlotsOK m len) (v : VC) (e : Env)
    (ts : List Ty) (xs : List Val) (hl : v.length = len) (h : Rel m.d v e) :
    Rel m.d (wrOuts m.d v ts xs) (e.set ts xs) ∧ ∀ e', Rel m.u v e' → Rel m.u (wrOuts m.d v ts xs) e' :=
  ⟨(wrOuts_rel m.d hs.dinj len hs.dlt ts xs v e hl h).2, fun e' h' => wrOuts_rel_other m.d m.u hs.disj ts xs v e' h'⟩

/-- what a wrapper passes to inner() is what the providers below see, and a later inner() call
    starts again from the wrapper's own downward environment (no leak between sibling calls) -/
theorem C01_inner_args_visible_below (n : Node) (next : Env → St → Env × St) (down : Env)
    (args : List Val) (k : List Val → WStep) (last : Env) (st : St) :
    specTree n next down (.call args k) last st =
      specTree n next down (k (n.recv.map (next (down.set n.outs args) (st.push (.winner n.id args))).1.rd))
        (if n.parallel then last else (next (down.set n.outs args) (st.push (.winner n.id args))).1)
        ((next (down.set n.outs args) (st.push (.winner n.id args))).2.push
          (.wrecv n.id (n.recv.map (next (down.set n.outs args) (st.push (.winner n.id args))).1.rd))) := rfl

/-- what a wrapper returns is what its caller sees, whatever happened in its inner() calls -/
theorem C02_wrapper_returns_win (n : Node) (next : Env → St → Env × St) (down : Env)
    (outs : List Val) (last : Env) (st : St) :
    (specTree n next down (.ret outs) last st).1 = last.set n.rets outs := rfl

/-- a wrapper that never calls inner(): every type it does not return itself comes up as zero -/
theorem C02_not_run_is_zero (b : Beh) (errTy : Ty) (fin n : Node) (rest : List Node) (down : Env) (st : St)
    (outs : List Val) (hk : n.kind = .wrapper)
    (hb : b.wrap n.id (st.count n.id) (n.ins.map down.rd) = .ret outs) (t : Ty) (ht : t ∉ n.rets) :
    (specNodes b errTy fin (n :: rest) down st).1.rd t = zeroV t := by
  simp only [specNodes, hk, hb, specTree]
  rewrite [C01_unwritten_type_keeps_upstream_value _ _ _ _ ht]
  rfl

/-- the values a wrapper receives from one inner() call are the values that call sent up -/
theorem C02_received_is_this_calls_return (n : Node) (next : Env → St → Env × St) (down : Env)
    (args : List Val) (outs : List Val) (st : St) (last : Env) :
    (specTree n next down (.call args (fun vals => .ret (vals ++ outs))) last st).2.trace.getLast? =
      some (.wret n.id ((n.recv.map (next (down.set n.outs args) (st.push (.winner n.id args))).1.rd) ++ outs)) := by
  simp [specTree, St.push]

/-- a type nobody at or below returns never comes up (so a receiver above sees zero) -/
theorem C02_nothing_from_nowhere (b : Beh) (m : Maps) (errTy : Ty) (fin : Node) (nodes : List Node)
    (h : wfRun m errTy fin nodes = true) (down : Env) (st : St) (t : Ty) (ht : t ∉ upTypes fin nodes) :
    (specNodes b errTy fin nodes down st).1.rd t = zeroV t := by
  simp [Env.rd, spec_frame b m errTy fin nodes h down st t ht]

/-- the invoke function returns, per result type, what came up from the chain -/
theorem C02_invoke_returns_what_came_up (c : Compiled) (b : Beh) (s : SBound) (args : List Val)
    (h : ¬ (c.init.isNone && !s.staticDone) = true) :
    (c.specInvoke b s args).1 =
      c.invokeRecv.map (specNodes b c.errTy c.fin c.run (s.base.set c.invokeOuts args) s.st).1.rd := by
  simp [Compiled.specInvoke, Bool.eq_false_iff.mpr h]

theorem buildProgRev_flatten (l open_ : List Node) (acc : Prog) :
    (buildProgRev l open_ acc).flatten = (l.reverse ++ open_ ++ acc.flatten.1, acc.flatten.2) := by
  fun_induction buildProgRev l open_ acc with
  | case1 | case2 => rfl
  | case3 _ _ _ _ ih | case4 _ _ _ _ _ _ ih | case5 _ _ _ _ _ ih =>
    rewrite [ih]; simp only [List.reverse_cons, List.append_assoc]; rfl

/-- the closure nest built by bind.go:253-297 (wrappers nest, runs of injectors are batched)
    contains every RUN provider exactly once, in list order, followed by the final function -/
theorem C05_flatten_buildProg (run : List Node) (fin : Node) :
    (buildProg run fin).flatten = (run, fin) := by
  simp [buildProg, buildProgRev_flatten, Prog.flatten]

/-- a plain injector runs exactly once and then the rest of the list runs -/
theorem C05_injector_then_rest (b : Beh) (errTy : Ty) (fin n : Node) (rest : List Node) (down : Env) (st : St)
    (hk : n.kind = .inj) (hm : n.memo = false) :
    specNodes b errTy fin (n :: rest) down st =
      specNodes b errTy fin rest (down.set n.outs (b.inj n.id (st.count n.id) (n.ins.map down.rd)))
        (st.push (.call n.id (n.ins.map down.rd) (b.inj n.id (st.count n.id) (n.ins.map down.rd)))) := by
  rw [specNodes_plain (by rw [hk]; nofun) (by rw [hk]; nofun), hm, callFn_plain]

/-- a straight chain of plain injectors: the trace grows by exactly one entry per provider, in
    list order, followed by the final function -/
theorem C05_straight_chain_order (b : Beh) (errTy : Ty) (fin : Node) :
    ∀ (nodes : List Node) (down : Env) (st : St),
      (∀ n ∈ nodes, n.kind = .inj ∧ n.memo = false) →
      ∃ ext, (specNodes b errTy fin nodes down st).2.trace = st.trace ++ ext ∧
        ext.map evId = nodes.map (·.id) ++ [fin.id] := by
  intro nodes
  induction nodes with
  | nil =>
    intro down st _
    exact ⟨[.call fin.id (fin.ins.map down.rd) (b.inj fin.id (st.count fin.id) (fin.ins.map down.rd))],
      rfl, rfl⟩
  | cons n rest ih =>
    intro down st h
    have hn := h n List.mem_cons_self
    rewrite [C05_injector_then_rest b errTy fin n rest down st hn.1 hn.2]
    obtain ⟨ext, he, hids⟩ := ih
      (down.set n.outs (b.inj n.id (st.count n.id) (n.ins.map down.rd)))
      (st.push (.call n.id (n.ins.map down.rd) (b.inj n.id (st.count n.id) (n.ins.map down.rd))))
      (fun n' hn' => h n' (List.mem_cons_of_mem _ hn'))
    refine ⟨Ev.call n.id (n.ins.map down.rd) (b.inj n.id (st.count n.id) (n.ins.map down.rd)) :: ext, ?_, ?_⟩
    · exact he.trans (List.append_assoc _ _ _)
    · rewrite [List.map_cons, hids]; rfl

/-- a wrapper that returns without calling inner() runs nothing below it -/
theorem C05_no_inner_call_nothing_below (n : Node) (next : Env → St → Env × St) (down : Env)
    (outs : List Val) (last : Env) (st : St) :
    (specTree n next down (.ret outs) last st).2 = st.push (.wret n.id outs) := rfl

/-- each inner() call runs the rest of the chain exactly once (from the wrapper's own downward
    environment plus the arguments of that call), then the wrapper body continues -/
theorem C05_each_inner_call_runs_rest_once (n : Node) (next : Env → St → Env × St) (down : Env)
    (args : List Val) (k : List Val → WStep) (last : Env) (st : St) :
    ∃ vals up st', next (down.set n.outs args) (st.push (.winner n.id args)) = (up, st') ∧
      specTree n next down (.call args k) last st =
        specTree n next down (k vals) (if n.parallel then last else up) (st'.push (.wrecv n.id vals)) :=
  ⟨_, _, _, rfl, rfl⟩

/-- a failing fallible injector: nothing after it runs, its other results are not injected,
    the error goes up as `error` and every other up type is zero -/
theorem C07_stops_chain (b : Beh) (errTy : Ty) (fin n : Node) (rest : List Node) (down : Env) (st : St)
    (hk : n.kind = .fallible) (hm : n.memo = false)
    (hfail : isErr ((b.inj n.id (st.count n.id) (n.ins.map down.rd)).getD n.errIdx (zeroV errTy)) = true) :
    specNodes b errTy fin (n :: rest) down st =
      (Env.empty.set1 errTy ((b.inj n.id (st.count n.id) (n.ins.map down.rd)).getD n.errIdx (zeroV errTy)),
       st.push (.call n.id (n.ins.map down.rd) (b.inj n.id (st.count n.id) (n.ins.map down.rd)))) := by
  rw [specNodes_fallible hk rfl, hm, callFn_plain, if_pos hfail]

theorem C07_error_surfaces_others_zero (errTy : Ty) (e : Val) (t : Ty) :
    (Env.empty.set1 errTy e).rd t = if t = errTy then e else zeroV t := by
  by_cases h : t = errTy
  · subst h; simp
  · rewrite [rd_set1_other Env.empty errTy t e h]; simp [h, Env.rd, Env.empty]

/-- a nil TerminalError merely makes the other results available and the chain continues -/
theorem C07_nil_continues (b : Beh) (errTy : Ty) (fin n : Node) (rest : List Node) (down : Env) (st : St)
    (hk : n.kind = .fallible) (hm : n.memo = false)
    (hok : isErr ((b.inj n.id (st.count n.id) (n.ins.map down.rd)).getD n.errIdx (zeroV errTy)) = false) :
    specNodes b errTy fin (n :: rest) down st =
      specNodes b errTy fin rest
        (down.set n.outs ((b.inj n.id (st.count n.id) (n.ins.map down.rd)).eraseIdx n.errIdx))
        (st.push (.call n.id (n.ins.map down.rd) (b.inj n.id (st.count n.id) (n.ins.map down.rd)))) := by
  rw [specNodes_fallible hk rfl, hm, callFn_plain, if_neg (by rw [hok]; nofun)]

/-- static part: a failing fallible static injector skips the remaining static injectors: none of
    them is called (the trace ends with this injector's call), their types are zero, the literal
    values listed after it are in place -/
theorem C07_static_fail_skips_rest (b : Beh) (n : SNode) (rest : List SNode) (down : Env) (st : St)
    (hl : n.lit = none) (hf : n.fallible = true)
    (hfail : isErr ((callStatic b n (n.ins.map down.rd) st).1.getD n.errIdx (zeroV 0)) = true) :
    specStatic b (n :: rest) down st =
      (applyLitsE rest ((down.zero (laterOuts rest)).set n.outs (callStatic b n (n.ins.map down.rd) st).1),
       (callStatic b n (n.ins.map down.rd) st).2) := by
  simp only [specStatic, hl, hf, Bool.true_and]
  rw [if_pos hfail]

/-- a literal value is in effect from its listed position on: the static injectors listed before it
    do not see it (C01 / C05 within the static part) -/
theorem C05_literal_takes_effect_at_its_position (b : Beh) (n : SNode) (x : Val) (rest : List SNode) (down : Env) (st : St)
    (hl : n.lit = some x) :
    specStatic b (n :: rest) down st = specStatic b rest (down.set n.outs [x]) st := by
  simp only [specStatic, hl]

/-- … and what it returned (its error, retyped to `error`) stays visible downstream, whatever the
    skipped injectors would have provided -/
theorem C07_static_error_visible (down : Env) (outs : List Ty) (vals : List Val) (later : List Ty) (t : Ty) :
    ((down.zero later).set outs vals).rd t =
      match (outs.zip vals).reverse.lookup t with
      | some x => x
      | none => (down.zero later).rd t :=
  C01_nearest_write (down.zero later) outs vals t

/-- init returns, per result type, the static values — including that error -/
theorem C07_init_returns_static_values (c : Compiled) (b : Beh) (s : SBound) (args : List Val)
    (sig : InitSig) (h : c.init = some sig) :
    (c.specInit b s args).1 = sig.bypass.map (c.specInit b s args).2.base.rd := by
  simp only [Compiled.specInit, h]

def noBad (tr : List Ev) : Prop := ∀ id, Ev.bad id ∉ tr

theorem noBad_append {tr : List Ev} {e : Ev} (h : noBad tr) (he : ∀ id, e ≠ .bad id) : noBad (tr ++ [e]) :=
  fun i hm => (List.mem_append.mp hm).elim (h i) fun hm => he i (List.mem_singleton.mp hm).symm

theorem callFn_noBad (b : Beh) (id : Nat) (memo : Bool) (args : List Val) (st : St) (h : noBad st.trace) :
    noBad (callFn b id memo args st).2.trace := by
  rcases callFn_spec b id memo args st with ⟨_, _, he⟩ | ⟨_, _, he⟩ <;> rewrite [he]
  · exact h
  · exact noBad_append h nofun

theorem specTree_noBad (n : Node) (next : Env → St → Env × St)
    (hnext : ∀ d s, noBad s.trace → noBad (next d s).2.trace) (down : Env) :
    ∀ (w : WStep) (last : Env) (st : St), noBad st.trace → noBad (specTree n next down w last st).2.trace := by
  intro w
  induction w with
  | ret outs =>
    intro last st h
    rewrite [specTree]; exact noBad_append h nofun
  | call args k ih =>
    intro last st h
    rewrite [specTree]
    exact ih _ _ _ (noBad_append (hnext _ _ (noBad_append h nofun)) nofun)

/-- the reference semantics never produces an invalid-argument event … -/
theorem spec_noBad (b : Beh) (errTy : Ty) (fin : Node) : ∀ (nodes : List Node) (down : Env) (st : St),
    noBad st.trace → noBad (specNodes b errTy fin nodes down st).2.trace := by
  intro nodes
  induction nodes with
  | nil => intro down st h; exact callFn_noBad b _ _ _ st h
  | cons n rest ih =>
    intro down st h
    by_cases hw : n.kind = .wrapper
    · rewrite [specNodes_wrapper hw]
      exact specTree_noBad n _ ih down _ _ _ (noBad_append h nofun)
    · by_cases hf : n.kind = .fallible
      · rewrite [specNodes_fallible hf rfl]
        split
        · exact callFn_noBad b _ _ _ st h
        · exact ih _ _ (callFn_noBad b _ _ _ st h)
      · rewrite [specNodes_plain hw hf]
        exact ih _ _ (callFn_noBad b _ _ _ st h)

/-- … hence, for a chain accepted by the validator, neither does the model of the generated code: every
    argument handed to a provider comes from a slot that exists (no invalid reflect.Value), for every behaviour -/
theorem C04_no_invalid_argument_run (b : Beh) (m : Maps) (len : Nat) (hs : SlotsOK m len) (errTy : Ty) (fin : Node)
    (nodes : List Node) (hwf : wfRun m errTy fin nodes = true) (v : VC) (down : Env) (st : St)
    (hl : v.length = len) (hd : Rel m.d v down) (hu : Rel m.u v Env.empty) (h : noBad st.trace) :
    noBad (execNodes b m errTy fin nodes v st).2.trace := by
  rewrite [(exec_refines_spec_run b hs errTy fin nodes hwf v down st ⟨hl, hd, hu⟩).st]
  exact spec_noBad b errTy fin nodes down st h

/-- invoke(T0) → wrapper W(T0; inner(T1) → T2) returns T2 → fallible F(T1) (T3, TerminalError)
    → final(T1, T3) → T2; `error` travels up to invoke -/
def exChain : Compiled :=
  { vcount := 6, errTy := 20,
    dmap := [(0, 0), (1, 1), (3, 2)], umap := [(2, 3), (20, 4)],
    lits := [], statics := [],
    run := [ { id := 0, kind := .wrapper, ins := [0], outs := [1], rets := [2], recv := [2, 20], zero := [2, 20] },
             { id := 1, kind := .fallible, ins := [1], outs := [3], rets := [20], zero := [2, 20], errIdx := 1 } ],
    fin := { id := 2, kind := .final, ins := [1, 3], rets := [2] },
    invokeOuts := [0], invokeRecv := [2, 20], init := none }

example : checkWF exChain = none := by decide +kernel
example : checkSupply exChain = true := by decide +kernel

end Nject
