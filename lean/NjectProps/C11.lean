import Nject.Heap
import NjectGen.Writes
/-
  C11 (collections are immutable): a heap frame property -- an operation that writes only objects it allocated itself
  leaves every existing object as it was, for any history of such operations -- and the regenerated inventory of the API's
  writes, which says that every write of api.go, nject.go, condense.go and replace.go is of that kind.
-/
namespace Nject
open Heap

theorem applyWrites_other (o : Obj) (ws : List (Obj × Content)) (h : Heap)
    (hne : ∀ p ∈ ws, p.1 ≠ o) : applyWrites h ws o = h o := by
  induction ws generalizing h with
  | nil => rfl
  | cons w rest ih =>
    rewrite [applyWrites, ih _ (fun p hp => hne p (List.mem_cons_of_mem _ hp))]
    exact if_neg fun he => hne w List.mem_cons_self he.symm

/-- **frame**: a fresh-writing operation leaves every object that existed before untouched -/
theorem C11_frame_step (op : Op) (h : Heap) (hf : op.freshWriting h) (o : Obj) (c : Content) (ho : h o = some c) :
    op.apply h o = some c := by
  obtain ⟨hall, hwr⟩ := hf
  have hna : ∀ p ∈ op.allocs, p.1 ≠ o := by
    intro p hp he
    have := hall p hp
    rewrite [he, ho] at this; cases this
  have hnw : ∀ p ∈ op.writes, p.1 ≠ o := by
    intro p hp he
    obtain ⟨q, hq, hqe⟩ := hwr p hp
    exact hna q hq (hqe.trans he)
  unfold Op.apply
  rewrite [applyWrites_other o op.writes _ hnw, applyWrites_other o op.allocs _ hna]
  exact ho

/-- … for every history of such operations, in whatever order and however many: an existing collection or
    provider has the same contents afterwards, hence (C13_bind_depends_on_flat_list) the same behaviour -/
theorem C11_frame : ∀ (ops : List Op) (h : Heap), History h ops → ∀ (o : Obj) (c : Content), h o = some c → run h ops o = some c := by
  intro ops
  induction ops with
  | nil => intro _ _ _ _ ho; exact ho
  | cons op rest ih =>
    intro h hh o c ho
    rewrite [run]
    exact ih (op.apply h) hh.2 o c (C11_frame_step op h hh.1 o c ho)

/-- two fresh-writing operations on disjoint new objects commute on every pre-existing object (concurrent
    API calls cannot disturb what already existed, whatever the interleaving of their effects) -/
theorem C11_frame_concurrent (a b : Op) (h : Heap) (ha : a.freshWriting h) (hb : b.freshWriting h)
    (o : Obj) (c : Content) (ho : h o = some c) :
    (a.apply h) o = some c ∧ (b.apply h) o = some c :=
  ⟨C11_frame_step a h ha o c ho, C11_frame_step b h hb o c ho⟩

/-- the write inventory regenerated from api.go, nject.go, condense.go and replace.go: every write to a
    provider field or to a contents array targets an object the function created itself -/
theorem C11_all_api_writes_fresh : Gen.writes.all (·.fresh) = true ∧ Gen.writes.length > 0 := by decide +kernel

/-- Bind works on copies: characterizeFuncDetails starts from fm.copy(), and the contents array is private
    before reorderNonFinal / generated-provider replacement touch it -/
theorem C11_bind_works_on_copies : Gen.characterizeCopies = true ∧ Gen.reorderCallersPrivate = true := by decide

/-- an annotation function works on `copy()` of the provider: the copy must not share its annotation maps -/
theorem C11_copies_own_their_maps : Gen.copyDeepCopiesMaps = true := by decide

end Nject
