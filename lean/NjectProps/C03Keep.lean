import NjectProofs.IncludeKeep
/-
  C03/C16: what the elimination rounds may try to remove.  `proposeEliminations` proposes the Shun'd providers and the
  providers outside the keep-closure; the closure contains every Required / Desired / auto-desired provider that is not
  excluded and, with each member, the nearest still-includable source of everything it asks for (downwards: inputs and
  bypass parameters; upwards: received values).  So a provider that somebody kept depends on in this sense is put to the
  test only if it is Shun'd.
-/
namespace Nject

theorem needed_source_is_spared (ch : Chain) (down : Bool) (s k : Nat) (hs : s ∈ keepSeeds ch) (hk : k ∈ kcNext ch down s)
    (hprop : k ∈ proposeEliminations ch) : (ch.get k).c.shun = true := by
  rcases C03_proposed_is_shunned_or_not_kept ch k hprop with h | h
  · exact h
  · have hkept := (C03_kept_is_closed ch down).2 s ((C03_kept_is_closed ch down).1 s hs) k hk
    cases down
    · exact absurd hkept h.2
    · exact absurd hkept h.1

/-- in particular: a Required, Desired or auto-desired provider that is not excluded, and the nearest includable source
    of each of its inputs, are put to the test only if they are Shun'd -/
theorem C03_needed_source_is_spared (ch : Chain) (s k : Nat) (hs : s ∈ keepSeeds ch) (hk : k ∈ kcNext ch true s)
    (hprop : k ∈ proposeEliminations ch) : (ch.get k).c.shun = true :=
  needed_source_is_spared ch true s k hs hk hprop

end Nject
