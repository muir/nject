import NjectProofs.CondenseProofs
/-
  C19 — Condense equals the sub-chain folded into one provider; flows are truthful.

  `netFlows` transcribes flows.go `netFlows` (the loop behind DownFlows/UpFlows of a collection),
  `returnedToSurroundings` transcribes flows.go `netReturns` (what Condense returns),
  `condenseFlows` = condense.go: characterise, then those two.  Tied to /repo on every run by the
  condense correspondence: for generated collections the condensed provider's inputs/outputs are
  compared with `condenseFlows`, Condense must succeed exactly when the collection binds directly
  to `func(downIn) upOut`, and the embedded condensed provider is compared, call by call and value
  by value, with the direct invocation.

  "Acts as a single injector … same values as binding the collection directly": in the model the
  condensed provider's body IS `execInvoke` of the bound sub-chain (Condense binds the collection to
  a reflective invoke function and wraps that as a provider), so its behaviour is the direct
  invocation by construction; what is left to the correspondence is the glue (reflectiveBinder,
  error retyping, the outer chain feeding it by C01).
-/
namespace Nject

/-- **DownFlows is sufficient.**  Every input of every member is, after interface matching, either
    one of the reported unresolved inputs or produced by a member listed before it: a chain that
    supplies `netFlows.1` leaves no member without a source. -/
theorem C19_downflows_sufficient (ti : TyInfo) (loose : Nat → List Ty) (members : List Mem)
    (i : Nat) (io : Mem) (hi : members[i]? = some io) (y : Ty) (hy : y ∈ io.1) :
    ∃ x', (x' ∈ (netFlows ti loose members).1 ∨ ∃ (j : Nat) (jo : Mem), j < i ∧ members[j]? = some jo ∧ x' ∈ jo.2)
        ∧ (x' = y ∨ (ti.isIface y = true ∧ ti.implements x' y = true)) :=
  (netFlows_inv ti loose members).suff i io hi y hy

/-- **… and exact.**  Every reported unresolved input is an input of some member that no member
    before it produces: the condensed provider asks for nothing it could do without. -/
theorem C19_downflows_exact (ti : TyInfo) (loose : Nat → List Ty) (members : List Mem) (x : Ty)
    (hx : x ∈ (netFlows ti loose members).1) :
    ∃ (i : Nat) (io : Mem), members[i]? = some io ∧ x ∈ io.1
      ∧ ∀ (j : Nat) (jo : Mem), j < i → members[j]? = some jo → x ∉ jo.2 :=
  (netFlows_inv ti loose members).exact x hx

/-- The reported produced types are produced by some member (nothing invented), and every type a
    member produces is accounted for as an input or an output of the collection. -/
theorem C19_downflows_outputs (ti : TyInfo) (loose : Nat → List Ty) (members : List Mem) :
    (∀ t ∈ (netFlows ti loose members).2, ∃ (j : Nat) (jo : Mem), members[j]? = some jo ∧ t ∈ jo.2)
    ∧ (∀ (j : Nat) (jo : Mem), members[j]? = some jo → ∀ t ∈ jo.2,
        t ∈ (netFlows ti loose members).1 ∨ t ∈ (netFlows ti loose members).2) :=
  ⟨(netFlows_inv ti loose members).uout, (netFlows_inv ti loose members).outs_seen⟩

/-- **What Condense returns** (`netReturns`): exactly the types some member returns while no member
    above it receives them — every type the collection hands back to its surroundings, and only
    those.  Over `(received, returned)` pairs in list order. -/
theorem C19_condense_returns_exact (members : List Mem) (t : Ty) :
    t ∈ returnedToSurroundings members ↔
      ∃ (k : Nat) (rk : Mem), members[k]? = some rk ∧ t ∈ rk.2
        ∧ ∀ (j : Nat) (jo : Mem), j < k → members[j]? = some jo → t ∉ jo.1 := by
  unfold returnedToSurroundings
  rewrite [returnedGo_mem]
  -- nothing is above the first member and nothing is collected yet
  simp only [List.not_mem_nil, false_or, not_false_eq_true, true_and]

/-- `UpFlows` (the generic net-flow loop applied to the up flows) is NOT complete in that sense: a
    wrapper that returns a type it also receives counts as consuming it only (documented in flows.go).
    `[W: func(inner func() R) R, F: func() R]` returns R to its surroundings; UpFlows reports nothing.
    Condense used this list until the fix "Condense failed when a wrapper returns a type that it also
    receives"; the witness is kept so that the difference stays visible. -/
theorem C19_upflows_undercounts_witness :
    (netFlows stdTyInfo (fun _ => []) [([1], [1]), ([], [1])]).2 = []
    ∧ returnedToSurroundings [([1], [1]), ([], [1])] = [1] := by decide +kernel

/-- when no member both receives and returns a type, the two agree on which types come out
    (partial: stated for the member list of the witness shape with the wrapper not returning) -/
example : (netFlows stdTyInfo (fun _ => []) [([1], [2]), ([], [1])]).2 = [2]
    ∧ returnedToSurroundings [([1], [2]), ([], [1])] = [2] := by decide +kernel

-- non-vacuity of the down-flow theorems: [A: func(X) Y, B: func(Y, Z) W] leaves X and Z unresolved
example : netFlows stdTyInfo (fun _ => []) [([0], [1]), ([1, 2], [3])] = ([0, 2], [1, 3]) := by decide +kernel
-- an interface input resolved by a Loose concrete producer is not unresolved
example : (netFlows stdTyInfo (fun _ => [10]) [([], [5]), ([10], [])]).1 = [] := by decide +kernel

end Nject
