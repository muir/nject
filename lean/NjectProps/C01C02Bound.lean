import NjectProps.C03Fixpoint
import NjectProps.C16
/-
  C01 ("a provider's input is the value of the nearest provider above it of that type -- never a zero value") and C02
  ("a wrapper receives what the providers below it returned -- never a value from nowhere"), the part that is a theorem
  about the include computation, one proof with the direction as a parameter: in the chain that Bind accepts, every input
  type of an included provider is supplied by an INCLUDED provider listed BEFORE it, and every type it expects from below is
  returned by an INCLUDED provider listed AFTER it, which outputs / returns that very type or -- for an interface matched to
  a Loose provider -- a type that implements it.  (Which of several such providers supplies the value, the slot it travels
  in and the generated code are the subject of the refinement theorem and of the S5/S6/S7 correspondence.)  Together with
  `C15_bound_chain_consumes_returns` (every returned value has a receiver above) C02 pins both ends of the upward flow.
-/
namespace Nject

/-- both directions at once, `p = .inp` for what comes from above and `p = .recv` for what comes from below: a type
    that an included provider asks for is dealt with when the flows are computed (`providesReturns_dealt`), the accepted
    chain has no error on record, so there is a list of sources, one of them included; and a recorded source stands on
    the right side and offers the type or one that implements it (`providesReturns_source`) -/
theorem bound_chain_params_are_answered (ti : TyInfo) (funcs : List CP) (cannot0 : List Nat) (ch : Chain)
    (h : computeInclusion ti funcs cannot0 = .ok ch)
    {p : Param} (hp : p ≠ .byp) (j : Nat) (hj : (ch.get j).inc = true) (t : Ty) (ht : t ∈ flowOfParam (ch.get j) p) (hn : t ≠ tNoType) :
    ∃ q, Ahead (p != .recv) q j ∧ (ch.get q).inc = true ∧
      ∃ x, (if (p != .recv) = true then x ∈ (ch.get q).c.out else x ∈ (ch.get q).c.ret) ∧ (x = t ∨ ti.implements x t = true) := by
  obtain ⟨pre, hpre, _⟩ := computeInclusion_ok h
  have hfr := computeInclusion_FR hpre h
  have hc := hfr.proj IP.c fun _ _ _ => rfl
  -- `j` was not excluded by pruning
  have hnc : (pre.get j).cannot = false := Bool.eq_false_iff.mpr fun hc =>
    Bool.noConfusion ((C16_pruned_providers_are_not_included ti funcs cannot0 pre ch hpre h j hc).1.symm.trans hj)
  obtain ⟨h1, h2, h3, hsrc⟩ := C03_included_providers_have_included_sources ch (C03_bound_chain_is_a_fixpoint ti funcs cannot0 ch h) j hj
  have herr : (ch.get j).errOf p = [] := by cases p <;> assumption
  obtain ⟨ch1, _, rfl⟩ := inclusionBeforeFinal_ok hpre
  rewrite [flowOfParam_congr ((hc j).trans (providesReturns_c ti _ _ j))] at ht
  rewrite [providesReturns_proj IP.cannot fun _ _ => rfl] at hnc
  rcases providesReturns_dealt ti _ _ hp j hnc t ht hn with he | ⟨_, e, he, hk, _⟩
  · rewrite [← hfr.proj (·.errOf p) (fun _ _ _ => rfl) j, herr] at he; cases he
  · obtain ⟨q, hq, hqinc⟩ := hsrc e (by
      rewrite [← hfr.proj (·.usesOf p) (fun _ _ _ => rfl) j] at he
      cases p
      · exact List.mem_append_left _ (List.mem_append_left _ he)
      · exact List.mem_append_left _ (List.mem_append_right _ he)
      · exact List.mem_append_right _ he)
    obtain ⟨hlt, x, hx, hxt⟩ := providesReturns_source ti _ _ hp (Lists_of_mem he hq)
    rewrite [← hc q] at hx
    exact ⟨q, hlt, hqinc, x, hx, hk ▸ hxt⟩

/-- **C01 (inputs are supplied)**: whenever the include computation accepts a provider list, every input type of an
    included provider is supplied by an included provider listed before it that outputs the type itself or a type
    implementing it. -/
theorem C01_bound_chain_inputs_are_supplied (ti : TyInfo) (funcs : List CP) (cannot0 : List Nat) (pre ch : Chain)
    (hpre : inclusionBeforeFinal ti funcs cannot0 = .ok pre) (h : computeInclusion ti funcs cannot0 = .ok ch)
    (j : Nat) (hj : (ch.get j).inc = true) (t : Ty) (ht : t ∈ (ch.get j).c.inp) (hn : t ≠ tNoType) :
    ∃ p, p < j ∧ (ch.get p).inc = true ∧ ∃ x, x ∈ (ch.get p).c.out ∧ (x = t ∨ ti.implements x t = true) :=
  bound_chain_params_are_answered ti funcs cannot0 ch h (p := .inp) (by simp) j hj t ht hn

/-- **C02 (received values are returned)**: whenever the include computation accepts a provider list, every type an
    included provider (a wrapper, the invoke function) expects from below is returned by an included provider listed
    after it -- further down the chain -- that returns the type itself or a type implementing it. -/
theorem C02_bound_chain_received_are_returned (ti : TyInfo) (funcs : List CP) (cannot0 : List Nat) (pre ch : Chain)
    (hpre : inclusionBeforeFinal ti funcs cannot0 = .ok pre) (h : computeInclusion ti funcs cannot0 = .ok ch)
    (j : Nat) (hj : (ch.get j).inc = true) (t : Ty) (ht : t ∈ (ch.get j).c.recv) (hn : t ≠ tNoType) :
    ∃ p, j < p ∧ (ch.get p).inc = true ∧ ∃ x, x ∈ (ch.get p).c.ret ∧ (x = t ∨ ti.implements x t = true) :=
  bound_chain_params_are_answered ti funcs cannot0 ch h (p := .recv) (by simp) j hj t ht hn

/-- premises are satisfiable: an interface parameter (10) supplied by a Loose provider of an implementing type (5) -/
def c01SupplyExample : List CP := [
  { id := 0, cls := .injectorFunc, out := [5], loose := [10], group := .runGroup },
  { id := 1, cls := .finalFunc, inp := [10], required := true, group := .finalGroup }]

example : (match computeInclusion stdTyInfo c01SupplyExample [] with
    | .ok ch => (ch.get 1).inc && (ch.get 0).inc && (ch.get 1).c.inp.contains 10 && stdTyInfo.implements 5 10
    | .error _ => false) = true := by decide +kernel

/-- premises are satisfiable: the invoke function expects an error (20) that the final function returns -/
def c02ReturnedExample : List CP := [
  { id := 990, cls := .invokeFunc, recv := [20], group := .invokeGroup, required := true },
  { id := 1, cls := .finalFunc, ret := [20], required := true, group := .finalGroup }]

example : (match computeInclusion stdTyInfo c02ReturnedExample [] with
    | .ok ch => (ch.get 0).inc && (ch.get 1).inc && (ch.get 0).c.recv.contains 20 && (ch.get 1).c.ret.contains 20
    | .error _ => false) = true := by decide +kernel

end Nject
